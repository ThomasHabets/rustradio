import RR.Spec.Blocks
import RR.Proof.Drive

/-!
`RationalResampler` for every chunking. The reference `resRef` is the code's arithmetic with unbounded output space;
the code's two loops (`emitCopies`, `resLoop`) stop early only on a full output, and `emit_rel` / `res_rel` say where a
pass stops and that the reference output splits there — also in the middle of the copies of one sample. A run then
keeps `ResInv`, `resRef I D 0 X = out ++ resRef I D cnt (X.drop c)` (`res_step`): the cumulative output is a prefix of
the reference output and, once everything is consumed, equal to it.
-/
namespace RR.Blk

theorem emitAll_nonpos (D : Int) (s : Nat) (fuel : Nat) (c : Int) (h : c ≤ 0) : emitAll D s fuel c = (c, []) := by
  cases fuel with
  | zero => rfl
  | succ f => simp only [emitAll]; rw [if_neg (by omega)]

theorem emitAll_fuel (D : Int) (hD : 0 < D) (s : Nat) : ∀ (f1 f2 : Nat) (c : Int),
    c.toNat + 1 ≤ f1 → c.toNat + 1 ≤ f2 → emitAll D s f1 c = emitAll D s f2 c := by
  intro f1
  induction f1 with
  | zero => intro f2 c h1 _; omega
  | succ f1 ih =>
    intro f2 c h1 h2
    cases f2 with
    | zero => omega
    | succ f2 =>
      simp only [emitAll]
      by_cases hc : c > 0
      · rw [if_pos hc, if_pos hc, ih f2 (c - D) (by omega) (by omega)]
      · rw [if_neg hc, if_neg hc]

/-- all copies of one sample, with the fuel `resRef` gives `emitAll`: always enough (`emitAll_fuel`), so that from
here on `emitAll`'s fuel is spoken of in the next two equations only -/
def copies (D : Int) (s : Nat) (c : Int) : Int × List Nat := emitAll D s (c.toNat + 1) c

theorem copies_nonpos (D : Int) (s : Nat) (c : Int) (h : c ≤ 0) : copies D s c = (c, []) :=
  emitAll_nonpos D s _ c h

theorem copies_pos (D : Int) (hD : 0 < D) (s : Nat) (c : Int) (h : 0 < c) :
    copies D s c = ((copies D s (c - D)).1, s :: (copies D s (c - D)).2) := by
  unfold copies
  rw [emitAll, if_pos h, emitAll_fuel D hD s c.toNat ((c - D).toNat + 1) (c - D) (by omega) (Nat.le_refl _)]

theorem resRef_cons (I D c : Int) (s : Nat) (rest : List Nat) :
    resRef I D c (s :: rest) = (copies D s (c + I)).2 ++ resRef I D (copies D s (c + I)).1 rest := rfl

/-- the bounded loop of the code emits `l1` and answers `full` only with the output filled; against the reference
(`0 < D`, enough fuel) `l1` is a first part of the copies, `c'` is the counter from which the reference emits the
others, and a loop that did not fill the output has emitted them all -/
theorem emit_rel (D : Int) (olen s : Nat) : ∀ (fuel : Nat) (c : Int) (out : List Nat),
    ∃ c' l1 full, emitCopies D olen s fuel c out = (c', out ++ l1, full) ∧
      (full = true → (out ++ l1).length = olen) ∧
      (0 < D → c.toNat + 1 ≤ fuel →
        copies D s c = ((copies D s c').1, l1 ++ (copies D s c').2) ∧ (full = false → c' ≤ 0)) := by
  intro fuel
  induction fuel with
  | zero => intro c out; exact ⟨c, [], false, by rw [List.append_nil]; rfl, nofun, fun _ h => by omega⟩
  | succ f ih =>
    intro c out
    simp only [emitCopies]
    by_cases hc : c > 0
    · simp only [hc, if_true]
      by_cases hfull : ((out ++ [s]).length == olen) = true
      · simp only [hfull, if_true]
        exact ⟨c - D, [s], true, rfl, fun _ => beq_iff_eq.mp hfull, fun hD _ => ⟨copies_pos D hD s c hc, nofun⟩⟩
      · simp only [hfull, if_false, Bool.false_eq_true]
        obtain ⟨c', l1, full, he, h2, h3⟩ := ih (c - D) (out ++ [s])
        rw [List.append_assoc] at he h2
        refine ⟨c', s :: l1, full, he, h2, fun hD h => ?_⟩
        obtain ⟨h4, h5⟩ := h3 hD (by omega)
        exact ⟨by rw [copies_pos D hD s c hc, h4]; rfl, h5⟩
    · simp only [hc, if_false]
      exact ⟨c, [], false, by rw [List.append_nil], nofun, fun _ _ => ⟨rfl, fun _ => Int.not_lt.mp hc⟩⟩

/-- one pass of the code's sample loop over the window `w` emits `o` and takes `k` samples; it ends with the output
full or with all of `w` taken; and (`0 < D`) the reference output of `w` followed by any `tail` splits there -/
theorem res_rel (I D : Int) (olen : Nat) (w : List Nat) : ∀ (c : Int) (taken : Nat) (out : List Nat),
    ∃ c' k o full, resLoop I D olen w c taken out = (c', taken + k, out ++ o, full) ∧
      (if full then (out ++ o).length = olen else k = w.length) ∧
      (0 < D → ∀ tail, resRef I D c (w ++ tail) = o ++ resRef I D c' ((w ++ tail).drop k)) := by
  induction w with
  | nil => intro c taken out; exact ⟨c, 0, [], false, by rw [List.append_nil]; rfl, rfl, fun _ _ => rfl⟩
  | cons s rest ih =>
    intro c taken out
    obtain ⟨c2, l1, full, he, h2, h3⟩ := emit_rel D olen s ((c + I).toNat + 1) (c + I) out
    rw [resLoop, he]
    cases full with
    | true =>
      simp only [if_true]
      by_cases hc2 : c2 > 0
      · -- output full in the middle of the copies: the sample stays, the counter is rewound
        simp only [hc2, if_true]
        refine ⟨c2 - I, 0, l1, true, rfl, h2 rfl, fun hD tail => ?_⟩
        rw [List.cons_append, List.drop_zero, resRef_cons, resRef_cons, (h3 hD (Nat.le_refl _)).1,
          Int.sub_add_cancel, List.append_assoc]
      · simp only [hc2, if_false]
        refine ⟨c2, 1, l1, true, rfl, h2 rfl, fun hD tail => ?_⟩
        rw [List.cons_append, resRef_cons, (h3 hD (Nat.le_refl _)).1, copies_nonpos D s c2 (Int.not_lt.mp hc2),
          List.append_nil]
        rfl
    | false =>
      simp only [Bool.false_eq_true, if_false]
      obtain ⟨c', k, o, full, hr, g3, g4⟩ := ih c2 (taken + 1) (out ++ l1)
      rw [List.append_assoc, Nat.add_assoc, Nat.add_comm 1] at hr
      refine ⟨c', k + 1, l1 ++ o, full, hr, by rw [← List.append_assoc]; simpa using g3, fun hD tail => ?_⟩
      obtain ⟨h4, h5⟩ := h3 hD (Nat.le_refl _)
      rw [List.cons_append, resRef_cons, h4, copies_nonpos D s c2 (h5 rfl), List.append_nil, List.append_assoc,
        g4 hD tail]
      rfl

theorem resWork_one (I D cnt : Int) (w : List Nat) (ts : List Tag) (al : Bool) (f : Nat) (al' : Bool) :
    resWork I D cnt ⟨[⟨w, ts, al⟩], [⟨f, al'⟩]⟩ =
      if w = [] then (cnt, ⟨[0], [⟨[], []⟩], .waitIn 0 1⟩)
      else if f = 0 then (cnt, ⟨[0], [⟨[], []⟩], .waitOut 0 1⟩)
      else
        ((resLoop I D f w cnt 0 []).1,
         ⟨[(resLoop I D f w cnt 0 []).2.1], [⟨(resLoop I D f w cnt 0 []).2.2.1, []⟩],
          if (resLoop I D f w cnt 0 []).2.2.2 then .waitOut 0 1 else .waitIn 0 1⟩) := by
  simp only [resWork, in0_cons, out0_cons, noOut_one, List.isEmpty_iff, beq_iff_eq]
  rfl

/-- the output so far, followed by the reference output of the unconsumed input from the block's counter, is the
reference output of the whole input -/
def ResInv (I D : Int) (X : List Nat) (cnt : Int) (c : Nat) (out : List Nat) : Prop :=
  resRef I D 0 X = out ++ resRef I D cnt (X.drop c)

theorem res_init (I D : Int) (X : List Nat) : ResInv I D X 0 0 [] := rfl

theorem res_step (I D : Int) (hD : 0 < D) (X : List Nat) (cnt : Int) (c : Nat) (out : List Nat) (a f : Nat)
    (h : ResInv I D X cnt c out) :
    let w := (X.drop c).take a
    let r := resWork I D cnt ⟨[⟨w, [], true⟩], [⟨f, true⟩]⟩
    ResInv I D X r.1 (c + r.2.consumed.getD 0 0) (out ++ (r.2.produced.getD 0 ⟨[], []⟩).samples) := by
  intro w r
  unfold ResInv at h ⊢
  simp only [r, resWork_one]
  split
  · simpa using h
  split
  · simpa using h
  · obtain ⟨c', k, o, full, hr, _, g4⟩ := res_rel I D f w cnt 0 []
    rw [hr, h, ← List.take_append_drop a (X.drop c), g4 hD, List.take_append_drop, List.drop_drop,
      Nat.zero_add, List.append_assoc]
    rfl

theorem res_drive (I D : Int) (hD : 0 < D) (X : List Nat) (sched : List (Nat × Nat)) :
    ∀ cnt c out, ResInv I D X cnt c out →
      let r := drive1 (resBlockRaw I D) X cnt c out sched
      ResInv I D X r.1 r.2.1 r.2.2 :=
  drive1_inv (resBlockRaw I D) X (ResInv I D X) (res_step I D hD X) sched

/-- … in particular, once everything has been consumed the output is exactly the reference output (no copies can be
pending then: a sample whose copies did not all fit is not consumed). -/
theorem res_drive_complete (I D : Int) (hD : 0 < D) (X : List Nat) (sched : List (Nat × Nat))
    (hall : (drive1 (resBlockRaw I D) X (0 : Int) 0 [] sched).2.1 = X.length) :
    (drive1 (resBlockRaw I D) X (0 : Int) 0 [] sched).2.2 = resRef I D 0 X := by
  have := res_drive I D hD X sched 0 0 [] (res_init I D X)
  simp only [ResInv] at this
  rw [hall, List.drop_length] at this
  simpa [resRef] using this.symm

end RR.Blk
