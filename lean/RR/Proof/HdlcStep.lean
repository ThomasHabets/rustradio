import RR.Model.Hdlc

/-!
Equations of the deframer's `step` and `run`, one per state and kind of bit;
the proofs about the deframer use these and do not unfold `step`.
-/
namespace RR.Hdlc

theorem run_nil (cfg : Cfg) (s : State) : run cfg s [] = (s, []) := rfl

theorem run_cons_none (cfg : Cfg) (s s1 : State) (b : Nat) (rest : List Nat)
    (h : step cfg s b = (s1, none)) : run cfg s (b :: rest) = run cfg s1 rest := by
  simp only [run, h]

theorem run_fst_cons (cfg : Cfg) (s : State) (b : Nat) (rest : List Nat) :
    (run cfg s (b :: rest)).1 = (run cfg (step cfg s b).1 rest).1 := by
  simp only [run]

theorem run_append (cfg : Cfg) (a b : List Nat) (s : State) :
    run cfg s (a ++ b) = ((run cfg (run cfg s a).1 b).1, (run cfg s a).2 ++ (run cfg (run cfg s a).1 b).2) := by
  induction a generalizing s with
  | nil => simp [run]
  | cons x rest ih =>
    simp only [List.cons_append, run]
    rw [ih]
    cases (step cfg s x).2 <;> simp

/-- the flag search register after one more bit (newest bit on top) -/
def shiftIn (v bit : Nat) : Nat := (v >>> 1) ||| ((bit <<< 7) % 256)

theorem shiftIn_lt (v bit : Nat) (h : v < 256) : shiftIn v bit < 256 :=
  Nat.or_lt_two_pow (n := 8) (by omega) (Nat.mod_lt _ (by omega))

theorem shiftIn_zero (v : Nat) : shiftIn v 0 = v >>> 1 := by simp [shiftIn]

theorem shiftIn_one (v : Nat) : shiftIn v 1 = v >>> 1 ||| 128 := rfl

theorem step_unsynced (cfg : Cfg) (v bit : Nat) : step cfg (.unsynced v) bit =
    if shiftIn v bit == Gen.hdlcFlag then (.synced 0 [], none) else (.unsynced (shiftIn v bit), none) := rfl

/-- The frame has outgrown `max_size`: back to the flag search, which is told what may be the
beginning of a closing flag (a zero, `ones` ones, this bit). -/
theorem step_too_long (cfg : Cfg) (ones : Nat) (bits : List Nat) (bit : Nat)
    (h : bits.length > cfg.maxSize * 8 + 7) :
    step cfg (.synced ones bits) bit = (.unsynced (shiftIn (0xff - 1 <<< (7 - ones)) bit), none) := by
  simp [step, h, shiftIn]

theorem step_synced (cfg : Cfg) (ones : Nat) (bits : List Nat) (bit : Nat)
    (h : bits.length ≤ cfg.maxSize * 8 + 7) :
    step cfg (.synced ones bits) bit =
      if bit > 0 then
        if ones == 5 then (.finalCheck (1 :: bits), none) else (.synced (ones + 1) (1 :: bits), none)
      else if ones == 5 then (.synced 0 bits, none)
      else (.synced 0 (0 :: bits), none) := by
  simp only [step, if_neg (Nat.not_lt.mpr h)]

theorem step_data_one (cfg : Cfg) (ones : Nat) (acc : List Nat) (h5 : ones < 5)
    (hl : acc.length ≤ cfg.maxSize * 8 + 7) :
    step cfg (.synced ones acc) 1 = (.synced (ones + 1) (1 :: acc), none) := by
  simp [step_synced cfg ones acc 1 hl, Nat.ne_of_lt h5]

theorem step_data_zero (cfg : Cfg) (ones : Nat) (acc : List Nat) (h5 : ones < 5)
    (hl : acc.length ≤ cfg.maxSize * 8 + 7) :
    step cfg (.synced ones acc) 0 = (.synced 0 (0 :: acc), none) := by
  simp [step_synced cfg ones acc 0 hl, Nat.ne_of_lt h5]

theorem step_stuffed_zero (cfg : Cfg) (acc : List Nat) (hl : acc.length ≤ cfg.maxSize * 8 + 7) :
    step cfg (.synced 5 acc) 0 = (.synced 0 acc, none) := by
  simp [step_synced cfg 5 acc 0 hl]

theorem step_sixth_one (cfg : Cfg) (acc : List Nat) (hl : acc.length ≤ cfg.maxSize * 8 + 7) :
    step cfg (.synced 5 acc) 1 = (.finalCheck (1 :: acc), none) := by
  simp [step_synced cfg 5 acc 1 hl]

theorem findRightCrc_nofix (data : List Nat) (got : Nat) : findRightCrc data got false = (none, calcCrc data) := by
  simp [findRightCrc]

theorem findRightCrc_ok (data : List Nat) (fix : Bool) :
    findRightCrc data (calcCrc data) fix = (none, calcCrc data) := by
  simp [findRightCrc]

theorem step_final_one (cfg : Cfg) (bits : List Nat) :
    step cfg (.finalCheck bits) 1 = (.unsynced 0xff, none) := by simp [step]

/-- The early returns of the `FinalCheck` arm of `update_state`, flattened into one condition. -/
theorem step_final (cfg : Cfg) (bits : List Nat) (bit : Nat) (hb : bit ≠ 1) :
    step cfg (.finalCheck bits) bit = (.synced 0 [],
      let bytes := toBytes (bits.drop 7).reverse
      let data := bytes.take (bytes.length - 2)
      let got := bytes.getD (bytes.length - 2) 0 + 256 * bytes.getD (bytes.length - 1) 0
      let r := findRightCrc data got cfg.fixBits
      if 7 ≤ bits.length ∧ (bits.length - 7) % 8 = 0 ∧ cfg.minSize ≤ (bits.length - 7) / 8 then
        if cfg.stripChecksum then (if 2 ≤ bytes.length ∧ r.2 = got then some (r.1.getD data) else none)
        else some bytes
      else none) := by
  simp only [step, List.length_reverse, List.length_drop, beq_iff_eq, hb, if_false]
  generalize toBytes (List.drop 7 bits).reverse = bytes
  generalize bytes.getD (bytes.length - 2) 0 + 256 * bytes.getD (bytes.length - 1) 0 = got
  generalize findRightCrc _ got cfg.fixBits = r
  by_cases h2 : bits.length < 7
  · rw [if_pos h2, if_neg (by omega)]
  by_cases h3 : (bits.length - 7) % 8 = 0
  · by_cases h4 : (bits.length - 7) / 8 < cfg.minSize
    · rw [if_neg h2, if_neg (by simpa using h3), if_pos h4, if_neg (by omega)]
    · have hg : 7 ≤ bits.length ∧ (bits.length - 7) % 8 = 0 ∧ cfg.minSize ≤ (bits.length - 7) / 8 := by omega
      rw [if_neg h2, if_neg (by simpa using h3), if_neg h4, if_pos hg]
      cases cfg.stripChecksum
      · rfl
      · by_cases h5 : bytes.length < 2
        · simp [h5]; omega
        · by_cases h6 : r.2 = got
          · simp [h5, h6]
          · simp [h5, h6]
  · rw [if_neg h2, if_pos (by simpa using h3), if_neg (by omega)]

theorem step_final_some (cfg : Cfg) (hs : cfg.stripChecksum = true) (bits : List Nat) (bit : Nat) (p : List Nat)
    (h : (step cfg (.finalCheck bits) bit).2 = some p) :
    let bytes := toBytes (bits.drop 7).reverse
    let data := bytes.take (bytes.length - 2)
    let got := bytes.getD (bytes.length - 2) 0 + 256 * bytes.getD (bytes.length - 1) 0
    2 ≤ bytes.length ∧ (findRightCrc data got cfg.fixBits).2 = got ∧
      (findRightCrc data got cfg.fixBits).1.getD data = p := by
  by_cases hb : bit = 1
  · rw [hb, step_final_one] at h; cases h
  · rw [step_final cfg bits bit hb] at h
    simp only [hs, if_true, Option.ite_none_right_eq_some, Option.some.injEq] at h
    obtain ⟨-, ⟨hlen, hcrc⟩, hp⟩ := h
    exact ⟨hlen, hcrc, hp⟩

end RR.Hdlc
