import RR.Spec.Drive

/-!
A one-input/one-output block driven over an input history by an adversarial schedule of (readable samples,
free output space): `drive1` on a stream without tags, `driveT` with the tags of the stream (`rng`: the tags of
a range of positions, `winTags`: what a read window shows of them). The induction over schedules is done here,
once per drive function (`drive1_inv`, `driveT_inv`); every "for every schedule" theorem about such a block is
one of these applied to the block's one-call lemma. For a block that hands tags on, that lemma is a `TagStep`
(the contract of one call, for any tags in its view) and `driveT_tags_prefix` / `driveT_tags_all` give where every
tag of the stream ends up.
-/
namespace RR.Blk

/-! ### Views with one input and one output

What `in0`, `out0` and `noOut` are on the views that `drive1` and the verdict theorems build: the call equations
(`*Work_one`) of the one-input/one-output blocks are read off with these, without unfolding the three. -/

@[simp] theorem in0_cons (i : InView) (is : List InView) (os : List OutView) : in0 ⟨i :: is, os⟩ = i := rfl
@[simp] theorem out0_cons (is : List InView) (o : OutView) (os : List OutView) : out0 ⟨is, o :: os⟩ = o := rfl
@[simp] theorem noOut_one (i : InView) (o : OutView) (vd : Verdict) :
    noOut ⟨[i], [o]⟩ vd = ⟨[0], [⟨[], []⟩], vd⟩ := rfl

@[simp] theorem noOut_verdict (v : View) (vd : Verdict) : (noOut v vd).verdict = vd := rfl

theorem noOut_nothing (v : View) (vd : Verdict) :
    (noOut v vd).consumed.getD 0 0 = 0 ∧ ((noOut v vd).produced.getD 0 ⟨[], []⟩).samples = [] := by
  constructor
  · cases h : v.ins <;> simp [noOut, h]
  · cases h : v.outs <;> simp [noOut, h]

theorem drive1_inv (B : Block) (X : List Nat) (Inv : B.σ → Nat → List Nat → Prop)
    (step : ∀ st c out a f, Inv st c out →
      let r := B.work st ⟨[⟨(X.drop c).take a, [], true⟩], [⟨f, true⟩]⟩
      Inv r.1 (c + r.2.consumed.getD 0 0) (out ++ (r.2.produced.getD 0 ⟨[], []⟩).samples))
    (sched : List (Nat × Nat)) : ∀ st c out, Inv st c out →
      let r := drive1 B X st c out sched
      Inv r.1 r.2.1 r.2.2 := by
  induction sched with
  | nil => intro st c out h; exact h
  | cons af rest ih => intro st c out h; exact ih _ _ _ (step st c out af.1 af.2 h)

theorem window_length_le (X : List Nat) (c a : Nat) : ((X.drop c).take a).length ≤ X.length - c := by
  rw [List.length_take, List.length_drop]; exact Nat.min_le_right _ _

/-- a prefix of a read window is a prefix of what is left of the stream -/
theorem window_take (X : List Nat) (c a n : Nat) (h : n ≤ ((X.drop c).take a).length) :
    ((X.drop c).take a).take n = (X.drop c).take n := by
  rw [List.take_take, Nat.min_eq_left (Nat.le_trans h (List.length_take_le _ _))]

theorem take_add_window (X : List Nat) (c a n : Nat) (h : n ≤ ((X.drop c).take a).length) :
    X.take (c + n) = X.take c ++ ((X.drop c).take a).take n := by
  rw [List.take_add, window_take X c a n h]

/-- a slice of a read window is that slice of the stream -/
theorem window_slice {β : Type} (X : List β) (c a pos n : Nat) (h : pos + n ≤ a) :
    (((X.drop c).take a).drop pos).take n = (X.drop (c + pos)).take n := by
  rw [List.drop_take, List.take_take, List.drop_drop, Nat.min_eq_left (by omega)]

end RR.Blk

namespace RR.Dsp
open RR RR.Blk

theorem rng_mem (T : List Tag) (a b : Nat) : ∀ t ∈ rng T a b, a ≤ t.pos ∧ t.pos < b := by
  intro t ht
  simp only [rng, List.mem_filter, decide_eq_true_eq] at ht
  exact ht.2

theorem rng_of_le (T : List Tag) (a b : Nat) (h : b ≤ a) : rng T a b = [] := by
  unfold rng
  rw [List.filter_eq_nil_iff]
  intro t _
  simp only [decide_eq_true_eq]
  omega

theorem rng_empty (T : List Tag) (a : Nat) : rng T a a = [] := rng_of_le T a a (Nat.le_refl a)

theorem rng_max (T : List Tag) (L c : Nat) : rng T L (max L c) = rng T L c := by
  rcases Nat.le_total c L with h | h
  · rw [Nat.max_eq_left h, rng_empty, rng_of_le T L c h]
  · rw [Nat.max_eq_right h]

theorem rng_map_congr (T : List Tag) (a b : Nat) (f g : Tag → Tag)
    (h : ∀ t : Tag, a ≤ t.pos → t.pos < b → f t = g t) : (rng T a b).map f = (rng T a b).map g :=
  List.map_congr_left fun t ht => h t (rng_mem T a b t ht).1 (rng_mem T a b t ht).2

theorem rng_append_perm (T : List Tag) (a b c : Nat) (hab : a ≤ b) (hbc : b ≤ c) :
    (rng T a b ++ rng T b c).Perm (rng T a c) := by
  -- `rng T a c`, split by `List.filter_append_perm` into what lies below `b` and what does not
  have h := List.filter_append_perm (fun t : Tag => decide (t.pos < b)) (rng T a c)
  unfold rng at h ⊢
  rw [List.filter_filter, List.filter_filter] at h
  refine (List.Perm.of_eq ?_).trans h
  congr 1
  · refine List.filter_congr fun t _ => ?_
    rw [Bool.eq_iff_iff]
    simp only [Bool.and_eq_true, decide_eq_true_eq]; omega
  · refine List.filter_congr fun t _ => ?_
    rw [Bool.eq_iff_iff]
    simp only [Bool.and_eq_true, Bool.not_eq_true', decide_eq_true_eq, decide_eq_false_iff_not]; omega

theorem _root_.List.Perm.rng_append {l : List Tag} {T : List Tag} {a b : Nat} (f : Tag → Tag)
    (h : l.Perm ((rng T a b).map f)) (c : Nat) (hab : a ≤ b) (hbc : b ≤ c) :
    (l ++ (rng T b c).map f).Perm ((rng T a c).map f) := by
  refine (h.append_right _).trans ?_
  rw [← List.map_append]
  exact (rng_append_perm T a b c hab hbc).map f

theorem map_mp_id (l : List Tag) : l.map (mp id) = l :=
  (List.map_congr_left fun _ _ => rfl).trans (List.map_id l)

theorem map_sh_up_id (l : List Tag) (d : Nat) (h : ∀ t ∈ l, d ≤ t.pos) : (l.map (sh d)).map (up d) = l := by
  rw [List.map_map]
  refine (List.map_congr_left fun t ht => ?_).trans (List.map_id l)
  show ({ t with pos := d + (t.pos - d) } : Tag) = t
  rw [Nat.add_sub_cancel' (h t ht)]

theorem winTags_filter (T : List Tag) (c wl lo hi : Nat) (hfit : hi ≤ wl) :
    ((winTags T c wl).filter fun t => decide (lo ≤ t.pos ∧ t.pos < hi)) = (rng T (c + lo) (c + hi)).map (sh c) := by
  unfold winTags rng
  rw [List.filter_map, List.filter_filter]
  congr 1
  apply List.filter_congr
  intro t _
  rw [Bool.eq_iff_iff]
  simp only [Function.comp, Bool.and_eq_true, decide_eq_true_eq]
  simp only [sh]
  omega

theorem winTags_filter_map (T : List Tag) (c wl n base : Nat) (g G : Nat → Nat) (hn : n ≤ wl)
    (hg : ∀ p, c ≤ p → p < c + n → base + g (p - c) = G p) :
    ((((winTags T c wl).filter fun t => decide (t.pos < n)).map (mp g)).map (up base)) =
      (rng T c (c + n)).map (mp G) := by
  have hlt := winTags_filter T c wl 0 n hn
  simp only [Nat.zero_le, true_and, Nat.add_zero] at hlt
  rw [hlt, List.map_map, List.map_map]
  refine rng_map_congr T _ _ _ _ fun t h1 h2 => ?_
  simp only [Function.comp, up, mp, sh]
  congr 1
  exact hg t.pos h1 h2

theorem driveT_inv (B : Block) (X : List Nat) (T : List Tag) (Inv : B.σ → Nat → List Nat → List Tag → Prop)
    (hstep : ∀ st c out ot a f, Inv st c out ot →
      let w := (X.drop c).take a
      let r := B.work st ⟨[⟨w, winTags T c w.length, true⟩], [⟨f, true⟩]⟩
      let p := r.2.produced.getD 0 ⟨[], []⟩
      Inv r.1 (c + r.2.consumed.getD 0 0) (out ++ p.samples) (ot ++ p.tags.map (up out.length)))
    (sched : List (Nat × Nat)) :
    ∀ st c out ot, Inv st c out ot →
      let r := driveT B X T st c out ot sched
      Inv r.1 r.2.1 r.2.2.1 r.2.2.2 := by
  induction sched with
  | nil => intro st c out ot h; exact h
  | cons p rest ih => intro st c out ot h; exact ih _ _ _ _ (hstep st c out ot p.1 p.2 h)

theorem drive1_eq_driveT (B : Block) (X : List Nat) (sched : List (Nat × Nat)) :
    ∀ st c out ot, drive1 B X st c out sched =
      ((driveT B X [] st c out ot sched).1, (driveT B X [] st c out ot sched).2.1,
        (driveT B X [] st c out ot sched).2.2.1) := by
  induction sched with
  | nil => intro st c out ot; rfl
  | cons p rest ih => intro st c out ot; exact ih _ _ _ _

/-- What `driveT_tags_prefix` asks of one call that returned `r`, on a window of `wl` samples showing the tags `ts`, when
`c` samples were consumed and `out` emitted before it: `Inv` is kept, no more is consumed than the window holds, and the
tags of the `n` consumed samples are handed on, moved by some `g` that, from where the output stands, amounts to `G` —
or, below `L`, dropped. -/
def TagStep {σ : Type} (Inv : σ → Nat → List Nat → Prop) (L : Nat) (G : Nat → Nat) (c : Nat) (out : List Nat)
    (ts : List Tag) (wl : Nat) (r : σ × Out) : Prop :=
  let n := r.2.consumed.getD 0 0
  let p := r.2.produced.getD 0 ⟨[], []⟩
  Inv r.1 (c + n) (out ++ p.samples) ∧ n ≤ wl ∧
  ((c + n ≤ L ∧ p.tags = []) ∨
   (L ≤ c ∧ ∃ g, p.tags = (ts.filter fun t => decide (t.pos < n)).map (mp g) ∧
      ∀ i, i < n → out.length + g i = G (c + i)))

/-- a call that moves nothing keeps everything and hands on no tag -/
theorem TagStep.idle {σ : Type} {Inv : σ → Nat → List Nat → Prop} {st : σ} {c : Nat} {out : List Nat}
    (h : Inv st c out) (L : Nat) (G : Nat → Nat) (ts : List Tag) (wl : Nat) (vd : Verdict) :
    TagStep Inv L G c out ts wl (st, ⟨[0], [⟨[], []⟩], vd⟩) := by
  refine ⟨(List.append_nil out).symm ▸ h, Nat.zero_le _, ?_⟩
  rcases Nat.le_total c L with hcL | hLc
  · exact .inl ⟨hcL, rfl⟩
  · exact .inr ⟨hLc, id, by simp, nofun⟩

/-- A block whose every call meets `TagStep`, for ANY tags in its view, has after any schedule handed on exactly the
tags of `[L, c)` moved by `G` (none while `c ≤ L`). -/
theorem driveT_tags (B : Block) (X : List Nat) (T : List Tag) (L : Nat) (G : Nat → Nat)
    (Inv : B.σ → Nat → List Nat → Prop)
    (hstep : ∀ st c out a f ts, Inv st c out →
      TagStep Inv L G c out ts ((X.drop c).take a).length (B.work st ⟨[⟨(X.drop c).take a, ts, true⟩], [⟨f, true⟩]⟩))
    (sched : List (Nat × Nat)) :
    ∀ st c out ot, Inv st c out → ot.Perm ((rng T L c).map (mp G)) →
      let r := driveT B X T st c out ot sched
      Inv r.1 r.2.1 r.2.2.1 ∧ r.2.2.2.Perm ((rng T L r.2.1).map (mp G)) := by
  intro st c out ot h1 h2
  refine driveT_inv B X T (fun st c out ot => Inv st c out ∧ ot.Perm ((rng T L c).map (mp G)))
    (fun st c out ot a f h => ?_) sched st c out ot ⟨h1, h2⟩
  obtain ⟨s1, hn, s2⟩ := hstep st c out a f (winTags T c ((X.drop c).take a).length) h.1
  have h2 := h.2
  refine ⟨s1, ?_⟩
  rcases s2 with ⟨hL, e⟩ | ⟨hL, g, e, hg⟩
  · -- still below `L`: nothing is handed on, and both ranges are empty
    rw [rng_of_le T L c (by omega)] at h2
    rwa [e, List.map_nil, List.append_nil, rng_of_le T L _ hL]
  · rw [e, winTags_filter_map T c _ _ out.length g G hn]
    · exact h2.rng_append (mp G) _ hL (Nat.le_add_right c _)
    · intro p h1 h2
      rw [hg (p - c) (by omega), show c + (p - c) = p by omega]

/-- where every run starts: nothing consumed, no tag handed on -/
theorem perm_rng_zero (T : List Tag) (L : Nat) (G : Nat → Nat) : ([] : List Tag).Perm ((rng T L 0).map (mp G)) := by
  rw [rng_of_le T L 0 (Nat.zero_le L)]; exact .refl _

/-- … and on a stream without tags (`drive1`) it keeps `Inv`. -/
theorem drive1_tagStep (B : Block) (X : List Nat) (L : Nat) (G : Nat → Nat) (Inv : B.σ → Nat → List Nat → Prop)
    (hstep : ∀ st c out a f ts, Inv st c out →
      TagStep Inv L G c out ts ((X.drop c).take a).length (B.work st ⟨[⟨(X.drop c).take a, ts, true⟩], [⟨f, true⟩]⟩))
    (sched : List (Nat × Nat)) : ∀ st c out, Inv st c out →
      let r := drive1 B X st c out sched
      Inv r.1 r.2.1 r.2.2 :=
  drive1_inv B X Inv (fun st c out a f h => (hstep st c out a f [] h).1) sched

end RR.Dsp
