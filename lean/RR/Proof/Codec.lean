import RR.Spec.Formats

/-!
Per sample, `parse` undoes `serialize` by arithmetic on the little-endian digits. For the reassembly
everything goes through one fact: there is only one way of writing `buf ++ chunk` as whole samples
followed by less than one sample, and `feed` returns it (`feed_iff`). Feeding in pieces (`feed_append`,
`feedAll_eq_feed`) is shown to produce such a split. The carry-buffer code of `TcpSource` (`RR.Proof.Tcp`) is
`feed` in the form it takes on an empty buffer (`feed_def`), preceded by `feed_one` when a read completes the
partial sample.
-/
namespace RR.Codec

theorem leBytes_length (n x : Nat) : (leBytes n x).length = n := by
  induction n generalizing x with
  | zero => rfl
  | succ n ih => simp [leBytes, ih]

theorem ofLe_leBytes (n x : Nat) (h : x < 256 ^ n) : ofLeBytes (leBytes n x) = x := by
  induction n generalizing x with
  | zero => simp at h; subst h; rfl
  | succ n ih =>
    simp only [leBytes, ofLeBytes]
    rw [ih (x / 256) (Nat.div_lt_of_lt_mul (Nat.pow_succ' ▸ h))]
    omega

theorem leBytes_bytes (n x : Nat) : ∀ b ∈ leBytes n x, b < 256 := by
  induction n generalizing x with
  | zero => intro b hb; cases hb
  | succ n ih =>
    intro b hb
    simp only [leBytes, List.mem_cons] at hb
    rcases hb with rfl | hb
    · omega
    · exact ih _ b hb

theorem serialize_length (t : Ty) (v : Val) : (serialize t v).length = t.size := by
  cases t <;> simp [serialize, Ty.size, leBytes_length]

theorem parse_serialize (t : Ty) (v : Val) (h : v.ok t) : parse t (serialize t v) = some v := by
  have hl := serialize_length t v
  obtain ⟨re, im⟩ := v
  unfold parse
  rw [if_neg (by rw [hl]; simp)]
  cases t
  case complex =>
    simp only [serialize]
    rw [List.take_left' (leBytes_length 4 _), List.drop_left' (leBytes_length 4 _),
      ofLe_leBytes 4 re h.1, ofLe_leBytes 4 im h.2]
  -- the one-pattern types: `serialize` is `leBytes` of the width, and `im = 0`
  all_goals
    obtain ⟨h1, rfl⟩ := h
    exact congrArg (fun x => some (Val.mk x 0)) (ofLe_leBytes _ re h1)

theorem size_pos (t : Ty) : 0 < t.size := by cases t <;> simp [Ty.size]

theorem parseAll_short (t : Ty) (bytes : List Nat) (h : bytes.length < t.size) : parseAll t bytes = [] := by
  rw [parseAll]; simp [h, Nat.ne_of_gt (size_pos t)]

theorem parseAll_cons (t : Ty) (a b : List Nat) (h : a.length = t.size) :
    parseAll t (a ++ b) = (parse t a).toList ++ parseAll t b := by
  rw [parseAll]
  simp only [Nat.ne_of_gt (size_pos t), dite_false, List.length_append, h,
    Nat.not_lt.2 (Nat.le_add_right _ _), if_false]
  rw [← h, List.take_left, List.drop_left]

theorem parseAll_append (t : Ty) (a b : List Nat) (ha : a.length % t.size = 0) :
    parseAll t (a ++ b) = parseAll t a ++ parseAll t b := by
  fun_induction parseAll t a with
  | case1 _ h => exact absurd h (Nat.ne_of_gt (size_pos t))
  | case2 a _ h =>
    rw [Nat.mod_eq_of_lt h] at ha
    rw [List.length_eq_zero_iff.1 ha]
    rfl
  | case3 a _ h ih =>
    have hl : (a.take t.size).length = t.size := by rw [List.length_take, Nat.min_eq_left (Nat.le_of_not_lt h)]
    rw [List.append_assoc, ← ih (by
        rw [List.length_drop]
        exact Nat.sub_mod_eq_zero_of_mod_eq (by rw [ha, Nat.mod_self])),
      ← parseAll_cons t _ _ hl, ← List.append_assoc, List.take_append_drop]

/-- `feed` with its byte count in the form `TcpSource`'s loop has it: `n - n % size` bytes are parsed, the rest
kept. -/
theorem feed_def (t : Ty) (buf chunk : List Nat) :
    feed t buf chunk = ((buf ++ chunk).drop ((buf ++ chunk).length - (buf ++ chunk).length % t.size),
      parseAll t ((buf ++ chunk).take ((buf ++ chunk).length - (buf ++ chunk).length % t.size))) := by
  simp only [feed, Nat.div_mul_self_eq_mod_sub_self]

theorem feed_iff {t : Ty} {buf chunk : List Nat} {p : List Nat × List Val} :
    feed t buf chunk = p ↔
      ∃ a, buf ++ chunk = a ++ p.1 ∧ a.length % t.size = 0 ∧ p.1.length < t.size ∧ p.2 = parseAll t a := by
  rw [feed_def]
  constructor
  · rintro rfl
    refine ⟨_, (List.take_append_drop _ _).symm, ?_, ?_, rfl⟩
    · rw [List.length_take, Nat.min_eq_left (Nat.sub_le _ _)]
      exact Nat.sub_mod_eq_zero_of_mod_eq (Nat.mod_mod _ _).symm
    · rw [List.length_drop, Nat.sub_sub_self (Nat.mod_le _ _)]
      exact Nat.mod_lt _ (size_pos t)
  · rintro ⟨a, h, ha, hr, hp⟩
    rw [h, List.length_append, Nat.add_mod, ha, Nat.zero_add, Nat.mod_mod, Nat.mod_eq_of_lt hr, Nat.add_sub_cancel,
      List.drop_left, List.take_left, ← hp]

theorem feed_fst_length (t : Ty) (buf chunk : List Nat) : (feed t buf chunk).1.length < t.size :=
  let ⟨_, _, _, h, _⟩ := feed_iff.1 rfl; h

theorem feed_snd (t : Ty) (buf chunk : List Nat) : (feed t buf chunk).2 = parseAll t (buf ++ chunk) := by
  obtain ⟨a, e, m, h, p⟩ := feed_iff.1 (rfl : feed t buf chunk = _)
  rw [p, e, parseAll_append t a _ m, parseAll_short t _ h, List.append_nil]

theorem feed_append {t : Ty} {buf c d : List Nat} {p q : List Nat × List Val} (hc : feed t buf c = p)
    (hd : feed t p.1 d = q) : feed t buf (c ++ d) = (q.1, p.2 ++ q.2) := by
  obtain ⟨a1, e1, m1, -, p1⟩ := feed_iff.1 hc
  obtain ⟨a2, e2, m2, h2, p2⟩ := feed_iff.1 hd
  refine feed_iff.2 ⟨a1 ++ a2, ?_, ?_, h2, ?_⟩
  · rw [← List.append_assoc, e1, List.append_assoc, e2, List.append_assoc]
  · rw [List.length_append, Nat.add_mod, m1, m2, Nat.zero_mod]
  · rw [p1, p2, parseAll_append t a1 a2 m1]

theorem feedAll_eq_feed (t : Ty) (buf : List Nat) (chunks : List (List Nat)) (hb : buf.length < t.size) :
    feedAll t buf chunks = feed t buf chunks.flatten := by
  induction chunks generalizing buf with
  | nil =>
    exact (feed_iff.2 ⟨[], (List.append_nil buf).trans (List.nil_append buf).symm, Nat.zero_mod _, hb,
      (parseAll_short t [] (size_pos t)).symm⟩).symm
  | cons c rest ih => exact (feed_append rfl (ih _ (feed_fst_length t buf c)).symm).symm

theorem feed_one {t : Ty} {buf c : List Nat} (h : (buf ++ c).length = t.size) :
    feed t buf c = ([], (parse t (buf ++ c)).toList) := by
  have hp := parseAll_cons t _ [] h
  rw [List.append_nil, parseAll_short t [] (size_pos t), List.append_nil] at hp
  exact feed_iff.2 ⟨_, (List.append_nil _).symm, by rw [h, Nat.mod_self], size_pos t, hp.symm⟩

end RR.Codec
