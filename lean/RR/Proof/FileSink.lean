import RR.Spec.Formats
import RR.Gen.FileSink

/-!
Durability rests on an invariant and an equation. `Conserved T` is kept by every single event of any
`work()`, so at every kill point the file is a prefix of the stream `T`. Between calls the two sinks are the
same function of the state (`workCall_eq`), so either then has a part `F` of the stream in the file, has
consumed exactly that and buffers nothing (`runCalls_eq`). Only `fileSink_states` looks inside a call, and only
for the stream sink's order.
-/
namespace RR.FileSink

theorem openSem_bad (f : OpenFlags) (c : List Nat) :
    (openSem f .dir).isOk = false ∧ (openSem f (.unwritable c)).isOk = false := by
  unfold openSem
  cases (!(f.write || f.append)) <;> cases f.createNew <;> exact ⟨rfl, rfl⟩

/-- Everything is somewhere: on disk, in the writer's buffer, or still to be written. -/
def Conserved (T : List Nat) (s : St) : Prop := s.file ++ s.buffered ++ s.todo = T

theorem ev_conserved (T : List Nat) (k spill : Nat) (s : St) (e : Ev) (h : Conserved T s) :
    Conserved T (ev k spill s e) := by
  unfold Conserved at *
  cases e
  · simp only [ev]
    rw [← h]
    simp only [List.append_assoc]
    congr 1
    rw [← List.append_assoc (List.take spill _), List.take_append_drop, List.append_assoc,
      List.take_append_drop]
  · simp only [ev]; rw [← h]; simp
  · simpa [ev] using h

theorem fold_conserved (T : List Nat) (k spill : Nat) (prog : List Ev) (s : St) (h : Conserved T s) :
    Conserved T (prog.foldl (ev k spill) s) :=
  List.foldlRecOn prog _ h fun s hs e _ => ev_conserved T k spill s e hs

theorem mem_workStates {prog : List Ev} {k spill : Nat} {s st : St} :
    st ∈ workStates prog k spill s ↔ ∃ j, j ≤ prog.length ∧ (prog.take j).foldl (ev k spill) s = st := by
  simp only [workStates, List.mem_map, List.mem_range, Nat.lt_succ_iff]

theorem workStates_conserved {T : List Nat} {prog : List Ev} {k spill : Nat} {s : St} (h : Conserved T s) :
    ∀ st ∈ workStates prog k spill s, Conserved T st := by
  intro st hst
  obtain ⟨j, -, rfl⟩ := mem_workStates.1 hst
  exact fold_conserved T k spill _ s h

theorem conserved_prefix (T : List Nat) (s : St) (h : Conserved T s) : s.file <+: T := by
  unfold Conserved at h
  exact ⟨s.buffered ++ s.todo, by rw [← List.append_assoc]; exact h⟩

/-- Between calls both sinks are the same function of the state: the window goes to the file and
leaves the stream. They differ only in what a kill in the middle of a call finds. -/
theorem workCall_eq {prog : List Ev} (hp : prog = Gen.fileSinkWork ∨ prog = Gen.ncFileSinkWork)
    (k spill : Nat) (s : St) (hb : s.buffered = []) :
    workCall prog k spill s = ⟨s.file ++ s.todo.take k, [], s.consumed + k, s.todo.drop k⟩ := by
  rcases hp with rfl | rfl <;>
    simp [workCall, Gen.fileSinkWork, Gen.ncFileSinkWork, ev, hb, List.append_assoc]

/-- Hence between calls either sink holds a part `F` of the stream in the file, has consumed exactly that, buffers
nothing and has the rest `D` to do. -/
theorem runCalls_eq {prog : List Ev} (hp : prog = Gen.fileSinkWork ∨ prog = Gen.ncFileSinkWork)
    (calls : List (Nat × Nat)) : ∀ F D,
      ∃ F' D', F' ++ D' = F ++ D ∧ runCalls prog ⟨F, [], F.length, D⟩ calls = ⟨F', [], F'.length, D'⟩ := by
  induction calls with
  | nil => exact fun F D => ⟨F, D, rfl, rfl⟩
  | cons call rest ih =>
    intro F D
    have hl : F.length + min call.1 D.length = (F ++ D.take (min call.1 D.length)).length := by
      rw [List.length_append, List.length_take, Nat.min_eq_left (Nat.min_le_right _ _)]
    rw [runCalls, workCall_eq hp _ _ _ rfl, hl]
    obtain ⟨F', D', h, e⟩ := ih (F ++ D.take (min call.1 D.length)) (D.drop (min call.1 D.length))
    exact ⟨F', D', by rw [h, List.append_assoc, List.take_append_drop], e⟩

/-- A call of the stream sink from such a state, killed anywhere. -/
theorem fileSink_states (F D : List Nat) (k spill : Nat) (hk : k ≤ D.length) :
    ∀ st ∈ workStates Gen.fileSinkWork k spill ⟨F, [], F.length, D⟩,
      st.file <+: F ++ D ∧ st.consumed ≤ st.file.length := by
  intro st hst
  refine ⟨conserved_prefix _ st (workStates_conserved (by simp [Conserved]) st hst), ?_⟩
  obtain ⟨j, hj, rfl⟩ := mem_workStates.1 hst
  have hj' : j = 0 ∨ j = 1 ∨ j = 2 ∨ j = 3 := by simp only [Gen.fileSinkWork, List.length] at hj; omega
  rcases hj' with rfl | rfl | rfl | rfl <;>
    simp [Gen.fileSinkWork, ev, List.length_append, List.length_take] <;> omega

end RR.FileSink
