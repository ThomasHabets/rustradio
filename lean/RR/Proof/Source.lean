import RR.Spec.Source
import RR.Proof.Drive

/-!
`Repeat`, and the sources driven by one. `VectorSource`, `FileSource` and `SigMFSource` differ in how
they get through one round of their data; the bookkeeping of rounds is the same and is done once:
a source whose every call meets the contract `RepStep` has, under any schedule, emitted whole rounds
and the progress in the current one (`srcDrive_inv`). A source contributes the equation of a call (`vsWork_one`) and
its one-call lemma (`vs_step`), read off it leaf by leaf (`RepStep.idle`, `RepStep.run`). `VectorSource` is the
first instance.
-/
namespace RR.Src
open RR RR.Blk

theorem done_iff (x : Repeat) : x.done = true ↔ x.r = .finite 0 := by
  cases x with | mk r c => cases r <;> simp [Repeat.done]

theorem rept_succ (n : Nat) (l : List Nat) : rept (n + 1) l = rept n l ++ l := by
  simp [rept, List.replicate_succ']

/-- A finite repeat of `n` rounds, of which `x.count` are complete. -/
def RepGood (n : Nat) (x : Repeat) : Prop := ∃ m, x.r = .finite m ∧ m + x.count = n

/-- What a source repeating `S` has emitted when `p` of the current round is out. -/
def repEmitted (S : List Nat) (n : Nat) (x : Repeat) (p : List Nat) : List Nat :=
  match x.r with
  | .finite 0 => rept n S
  | _ => rept x.count S ++ p

theorem repEmitted_done {x : Repeat} (h : x.done = true) (S : List Nat) (n : Nat) (p : List Nat) :
    repEmitted S n x p = rept n S := by
  simp only [repEmitted, (done_iff x).mp h]

theorem repEmitted_running {x : Repeat} (h : x.done = false) (S : List Nat) (n : Nat) (p : List Nat) :
    repEmitted S n x p = rept x.count S ++ p := by
  unfold repEmitted
  split
  next h0 => rw [(done_iff x).mpr h0] at h; cases h
  next => rfl

/-- a running source's progress in the current round is at the end of what it has emitted -/
theorem repEmitted_append {x : Repeat} (h : x.done = false) (S : List Nat) (n : Nat) (p q : List Nat) :
    repEmitted S n x (p ++ q) = repEmitted S n x p ++ q := by
  rw [repEmitted_running h, repEmitted_running h, List.append_assoc]

theorem repEmitted_finite (S : List Nat) (n : Nat) (hn : 0 < n) : repEmitted S n (Repeat.finite n) [] = [] :=
  match n, hn with
  | _ + 1, _ => rfl

/-- **The end of a round.** `again()` succeeds, says "continue" exactly when the new counter is not
done, and the round just completed is accounted for either way. -/
theorem again_spec {n : Nat} (hn : n < 2 ^ 64) {x : Repeat} (hg : RepGood n x) (hd : x.done = false) :
    ∃ x', x.again = some (x', !x'.done) ∧ RepGood n x' ∧
      ∀ S p, (x'.done = false → p = []) → repEmitted S n x' p = repEmitted S n x S := by
  obtain ⟨r, c⟩ := x
  obtain ⟨m, rfl, hsum⟩ : ∃ m, r = .finite m ∧ m + c = n := hg
  have hm0 : m ≠ 0 := by simpa [Repeat.done] using hd
  obtain ⟨q, rfl⟩ := Nat.exists_eq_succ_of_ne_zero hm0
  have hov : ¬ (c + 1 ≥ 2 ^ 64) := by omega
  refine ⟨⟨.finite q, c + 1⟩, ?_, ⟨q, rfl, by rw [← hsum]; exact (Nat.add_right_comm q 1 c).symm⟩, ?_⟩
  · -- `n > 1` with `n = q + 1` is `q ≠ 0`
    simp only [Repeat.again, Repeat.done, hov, if_false, Nat.succ_ne_zero]
    cases q <;> rfl
  · intro S p hp
    rw [repEmitted_running hd]
    cases hx : (⟨.finite q, c + 1⟩ : Repeat).done
    · rw [repEmitted_running hx, hp hx, rept_succ, List.append_nil]
    · have hq : q = 0 := by simpa [Repeat.done] using hx
      rw [repEmitted_done hx, ← hsum, hq, Nat.add_comm, rept_succ]

/-- **The contract of one call** of a source from state `st`, returning `r`: it keeps `Good`, appends
what it produces to `E`, answers `EOF` exactly on reaching a finished `Repeat`, does nothing more once
there, and does not panic. -/
def RepStep {σ : Type} (Good : σ → Prop) (E : σ → List Nat) (rep : σ → Repeat) (st : σ) (r : σ × Out) : Prop :=
  Good r.1 ∧ E r.1 = E st ++ (r.2.produced.getD 0 ⟨[], []⟩).samples ∧
    (r.2.verdict = .eof ↔ (rep r.1).done = true) ∧ ((rep st).done = true → r.1 = st) ∧ r.2.verdict ≠ .panic

/-- a call that emits nothing and stays where it is -/
theorem RepStep.idle {σ : Type} {Good : σ → Prop} {E : σ → List Nat} {rep : σ → Repeat} {st : σ} {vd : Verdict}
    (hg : Good st) (v : View) (hv : vd = .eof ↔ (rep st).done = true) (hp : vd ≠ .panic) :
    RepStep Good E rep st (st, noOut v vd) :=
  ⟨hg, by rw [(noOut_nothing v vd).2, List.append_nil], hv, fun _ => rfl, hp⟩

/-- a call of a running source that returns `(st', o)` -/
theorem RepStep.run {σ : Type} {Good : σ → Prop} {E : σ → List Nat} {rep : σ → Repeat} {st st' : σ} {o : Out}
    (hdn : (rep st).done = false) (hg : Good st') (he : E st' = E st ++ (o.produced.getD 0 ⟨[], []⟩).samples)
    (hv : o.verdict = .eof ↔ (rep st').done = true) (hp : o.verdict ≠ .panic) : RepStep Good E rep st (st', o) :=
  ⟨hg, he, hv, fun h => by simp [hdn] at h, hp⟩

/-- **A `Repeat`-driven source, any consumption schedule.** `drive` is any function that runs `w` over the free
space of successive calls, collecting the samples and whether some call answered `EOF` (`driveSrc`, `fsDrive` and
`sgDrive` are, by `rfl` twice). If every call meets the contract with `E = repEmitted S n rep prog`, the cumulative
output is whole rounds of `S` and the progress in the current one, and an `EOF` answer means exactly `n` rounds
are out. -/
theorem srcDrive_inv {σ : Type} {w : σ → View → σ × Out} {Good : σ → Prop} {rep : σ → Repeat} {S : List Nat}
    {n : Nat} {prog : σ → List Nat} (drive : σ → List Nat → Bool → List Nat → σ × List Nat × Bool)
    (drive_nil : ∀ st out eof, drive st out eof [] = (st, out, eof))
    (drive_cons : ∀ st out eof f rest, drive st out eof (f :: rest) =
      drive (w st ⟨[], [⟨f, true⟩]⟩).1 (out ++ ((w st ⟨[], [⟨f, true⟩]⟩).2.produced.getD 0 ⟨[], []⟩).samples)
        (eof || (w st ⟨[], [⟨f, true⟩]⟩).2.verdict == .eof) rest)
    (step : ∀ st f, Good st →
      RepStep Good (fun s => repEmitted S n (rep s) (prog s)) rep st (w st ⟨[], [⟨f, true⟩]⟩))
    (frees : List Nat) : ∀ st out eof, Good st → out = repEmitted S n (rep st) (prog st) →
      (eof = true → (rep st).done = true) →
      let r := drive st out eof frees
      Good r.1 ∧ r.2.1 = repEmitted S n (rep r.1) (prog r.1) ∧ (r.2.2 = true → r.2.1 = rept n S) := by
  induction frees with
  | nil =>
    intro st out eof hg hout heof
    rw [drive_nil]
    exact ⟨hg, hout, fun h => hout.trans (repEmitted_done (heof h) _ _ _)⟩
  | cons f rest ih =>
    intro st out eof hg hout heof
    rw [drive_cons]
    obtain ⟨hgood, hemit, heofiff, hstay, _⟩ := step st f hg
    refine ih _ _ _ hgood (hout ▸ hemit.symm) fun he => ?_
    simp only [Bool.or_eq_true, beq_iff_eq] at he
    -- `EOF` seen before: the state was done and has not moved; `EOF` now: the new state is done
    exact he.elim (fun h => by rw [hstay (heof h)]; exact heof h) heofiff.mp

/-- One call, any view: the one place where `vsWork` is opened. -/
theorem vsWork_one (data : List Nat) (st : VSt) (v : View) :
    vsWork data st v =
      if data = [] ∨ st.rep.done = true then (st, noOut v .eof)
      else if (out0 v).free = 0 then (st, noOut v (.waitOut 0 1))
      else
        let k := min (out0 v).free (data.length - st.pos)
        let p : Produced := ⟨(data.drop st.pos).take k,
          (if st.pos == 0 then [⟨0, keyStart, 1⟩, ⟨0, keyRepeat, st.rep.count⟩] else []) ++
          (if st.pos == 0 && st.rep.count == 0 then [⟨0, keyFirst, 1⟩] else [])⟩
        if st.pos + k = data.length then
          match st.rep.again with
          | none => (st, noOut v .panic)
          | some (rep', more) =>
            if more then (⟨0, rep'⟩, ⟨[], [p], .again⟩) else (⟨st.pos + k, rep'⟩, ⟨[], [p], .eof⟩)
        else (⟨st.pos + k, st.rep⟩, ⟨[], [p], .again⟩) := by
  simp only [vsWork, List.isEmpty_iff, beq_iff_eq]
  by_cases hd : data = []
  · simp only [hd, true_or, if_true]
  · simp only [hd, false_or, if_false]
    rfl

theorem vs_step (data : List Nat) (n : Nat) (hn : n < 2 ^ 64) (hd : data ≠ []) (st : VSt) (f : Nat)
    (hg : Good data n st) :
    RepStep (Good data n) (emitted data n) VSt.rep st (vsWork data st ⟨[], [⟨f, true⟩]⟩) := by
  show RepStep _ (fun s : VSt => repEmitted data n s.rep (data.take s.pos)) _ _ _
  obtain ⟨m, hm, hsum, hpos, hle⟩ := id hg
  cases hdn : st.rep.done
  · rw [vsWork_one, out0_cons, if_neg (by simp [hd, hdn])]
    by_cases hf : f = 0
    · rw [if_pos hf]; exact .idle hg _ (by simp [hdn]) nofun
    rw [if_neg hf]
    dsimp only
    generalize hk : min f (data.length - st.pos) = k
    -- a running source is inside its data: `m = 0` would be `done`
    have hp : st.pos < data.length :=
      hpos.resolve_left fun h => by rw [(done_iff _).mpr (h ▸ hm)] at hdn; cases hdn
    by_cases hend : st.pos + k = data.length
    · -- the chunk completes the round
      have hround : repEmitted data n st.rep data =
          repEmitted data n st.rep (data.take st.pos) ++ (data.drop st.pos).take k := by
        rw [← repEmitted_append hdn, ← List.take_add, hend, List.take_length]
      obtain ⟨x', ha, ⟨m', hm', hsum'⟩, he⟩ := again_spec hn ⟨m, hm, hsum⟩ hdn
      rw [if_pos hend, ha]
      cases hx : x'.done <;> simp only [Bool.not_false, Bool.not_true, Bool.false_eq_true, if_true, if_false]
      · exact .run hdn ⟨m', hm', hsum', .inr (Nat.zero_lt_of_lt hp), Nat.zero_le _⟩
          ((he data _ fun _ => rfl).trans hround) (by simp [hx]) nofun
      · have hm0 : m' = 0 := Repeater.finite.inj (hm'.symm.trans ((done_iff _).mp hx))
        exact .run hdn ⟨m', hm', hsum', .inl hm0, Nat.le_of_eq hend⟩
          ((he data _ fun h => by simp [hx] at h).trans hround) (by simp [hx]) nofun
    · rw [if_neg hend]
      exact .run hdn ⟨m, hm, hsum, .inr (by show st.pos + k < _; omega), by show st.pos + k ≤ _; omega⟩
        ((congrArg _ (List.take_add ..)).trans (repEmitted_append hdn ..)) (by simp [hdn]) nofun
  · rw [vsWork_one, if_pos (.inr hdn)]; exact .idle hg _ (by simp [hdn]) nofun

theorem againN_finite (n k : Nat) (c : Nat) (hk : k ≤ n) (hc : c + k < 2 ^ 64) :
    againN k ⟨.finite n, c⟩ =
      some (⟨.finite (n - k), c + k⟩, (List.range k).map fun j => decide (n - j > 1)) := by
  induction k generalizing n c with
  | zero => simp [againN]
  | succ k ih =>
    have hn : n ≠ 0 := by omega
    have hov : ¬ (c + 1 ≥ 2 ^ 64) := by omega
    simp only [againN, Repeat.again, hov, hn, if_false]
    rw [ih (n - 1) (c + 1) (by omega) (by omega)]
    have e3 : ∀ j, n - 1 - j = n - (j + 1) := fun j => by rw [Nat.sub_sub, Nat.add_comm]
    have e2 : c + 1 + k = c + (k + 1) := by rw [Nat.add_assoc, Nat.add_comm 1]
    simp only [Option.map_some, List.range_succ_eq_map, List.map_cons, List.map_map, e2, e3,
      Function.comp_def, Nat.sub_zero, Nat.succ_eq_add_one]

theorem againN_infinite (k c : Nat) (hc : c + k < 2 ^ 64) :
    againN k ⟨.infinite, c⟩ = some (⟨.infinite, c + k⟩, List.replicate k true) := by
  induction k generalizing c with
  | zero => simp [againN]
  | succ k ih =>
    have hov : ¬ (c + 1 ≥ 2 ^ 64) := by omega
    simp only [againN, Repeat.again, hov, if_false]
    rw [ih (c + 1) (by omega)]
    simp [List.replicate_succ]; omega

/-- Calling `again()` on an exhausted finite repeat is the (only) way to underflow. -/
theorem again_exhausted (c : Nat) : (⟨.finite 0, c⟩ : Repeat).again = none := by
  simp [Repeat.again]

end RR.Src
