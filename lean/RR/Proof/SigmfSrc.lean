import RR.Proof.FileSrc

/-!
SigMFSource for every consumption schedule: the cumulative output is whole
repetitions of the recording's whole samples followed by a prefix of them; a call
answers `EOF` exactly when it leaves the repeat counter done, and then all `n`
repetitions are out. A round that ends starts the next one with a read in the same
call, so the read half (`sgRead_step`) meets the contract on its own.
-/
namespace RR.Src
open RR RR.Blk

/-- the read-and-emit half of `work` meets the contract on its own -/
theorem sgRead_step (data : List Nat) (size n : Nat) (hs : 0 < size) (st : SgSt) (f : Nat) (hdn : st.rep.done = false)
    (hg : SgGood data size n st) :
    RepStep (SgGood data size n) (sgEmitted data size n) SgSt.rep st (sgRead data size st ⟨[], [⟨f, true⟩]⟩) := by
  show RepStep _ (fun s : SgSt => repEmitted (fileSamples data size) n s.rep
    (samplesOf size ((data.length - s.left) / size) data)) _ _ _
  obtain ⟨m, hm, hsum, hleft, hbuf⟩ := id hg
  have hblt : st.buf.length < size := hbuf ▸ Nat.lt_of_le_of_lt (List.length_take_le ..) (Nat.mod_lt _ hs)
  simp only [sgRead, out0_cons, Nat.div_eq_of_lt hblt, beq_iff_eq, if_true]
  by_cases hf : f = 0
  · rw [if_pos hf]; exact .idle hg _ (by simp [hdn]) nofun
  · rw [if_neg hf]
    have hnf : min (f * size) st.left ≤ f * size := Nat.min_le_left _ _
    have hnl : min (f * size) st.left ≤ st.left := Nat.min_le_right _ _
    generalize min (f * size) st.left = nn at hnf hnl
    generalize hd : st.buf ++ (data.drop (data.length - st.left)).take nn = d
    obtain ⟨hbuf', hsplit⟩ := fs_chunk data size (data.length - st.left) nn hs (by omega) st.buf hbuf d hd.symm
    have hpos' : data.length - (st.left - nn) = data.length - st.left + nn := by omega
    have hdl : d.length ≤ st.buf.length + nn := by
      rw [← hd, List.length_append, List.length_take]
      exact Nat.add_le_add_left (Nat.min_le_left _ _) _
    -- fewer than `f + 1` samples: less than one buffered and at most `f` read
    have hkf : d.length / size ≤ f := by
      apply Nat.le_of_lt_succ
      rw [Nat.div_lt_iff_lt_mul hs, Nat.succ_mul, Nat.add_comm]
      exact Nat.lt_of_le_of_lt hdl (Nat.add_lt_add_of_lt_of_le hblt hnf)
    rw [Nat.min_eq_left hkf]
    exact .run hdn ⟨m, hm, hsum, by show st.left - nn ≤ _; omega, hpos' ▸ hbuf'⟩
      ((congrArg _ (hpos' ▸ hsplit)).trans (repEmitted_append hdn ..)) (by simp [hdn]) nofun

/-- One call, any view: the one place where `sgWork` is opened. -/
theorem sgWork_one (data : List Nat) (size : Nat) (st : SgSt) (v : View) :
    sgWork data size st v =
      if data = [] ∨ st.rep.done = true then (st, noOut v .eof)
      else if st.left = 0 then
        match st.rep.again with
        | none => (st, noOut v .panic)
        | some (rep', more) =>
          if more then sgRead data size ⟨data.length, [], rep'⟩ v else ({ st with rep := rep' }, noOut v .eof)
      else sgRead data size st v := by
  simp only [sgWork, Bool.or_eq_true, beq_iff_eq, List.length_eq_zero_iff, or_comm]
  rfl

theorem sg_step (data : List Nat) (size n : Nat) (hs : 0 < size) (hn : n < 2 ^ 64) (hd : data ≠ []) (st : SgSt)
    (f : Nat) (hg : SgGood data size n st) :
    RepStep (SgGood data size n) (sgEmitted data size n) SgSt.rep st (sgWork data size st ⟨[], [⟨f, true⟩]⟩) := by
  show RepStep _ (fun s : SgSt => repEmitted (fileSamples data size) n s.rep
    (samplesOf size ((data.length - s.left) / size) data)) _ _ _
  cases hdn : st.rep.done
  · rw [sgWork_one, if_neg (by simp [hd, hdn])]
    by_cases hl0 : st.left = 0
    · -- the round is complete; a further one starts with a read in the same call
      obtain ⟨m, hm, hsum, hleft, hbuf⟩ := hg
      obtain ⟨x', ha, ⟨m', hm', hsum'⟩, he⟩ := again_spec hn ⟨m, hm, hsum⟩ hdn
      have hS : samplesOf size ((data.length - st.left) / size) data = fileSamples data size := by
        rw [hl0]; rfl
      rw [if_pos hl0, ha]
      cases hx : x'.done <;> simp only [Bool.not_false, Bool.not_true, Bool.false_eq_true, if_true, if_false]
      · obtain ⟨hgood, hemit, heofiff, _, hnpanic⟩ := sgRead_step data size n hs ⟨data.length, [], x'⟩ f hx
          ⟨m', hm', hsum', Nat.le_refl _, by simp⟩
        exact .run hdn hgood (by rw [hS]; exact hemit.trans (congrArg (· ++ _) (he _ _ fun _ => by simp [samplesOf])))
          heofiff hnpanic
      · exact .run hdn ⟨m', hm', hsum', hleft, hbuf⟩
          (by rw [(noOut_nothing _ _).2, List.append_nil, hS]; exact he _ _ fun h => by simp [hx] at h)
          (by simp [hx]) nofun
    · rw [if_neg hl0]; exact sgRead_step data size n hs st f hdn hg
  · rw [sgWork_one, if_pos (.inr hdn)]; exact .idle hg _ (by simp [hdn]) nofun

end RR.Src
