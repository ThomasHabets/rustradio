import RR.Spec.Blocks
import RR.Proof.Drive

/-!
VecToStream for every schedule: the output is the concatenation of the packets
popped so far, and the block adds exactly a start tag on the first and an end tag
on the last sample of every non-empty packet (value = packet length).
-/
namespace RR.Blk

theorem pktBase_pos : 0 < pktBase := by decide

/-- enough fuel for `c` is any `fuel` with `c < 2 ^ fuel`: every round divides by `pktBase ≥ 2` -/
theorem decodePktF_encode (l : List Nat) (hl : ∀ x ∈ l, x + 1 < pktBase) :
    ∀ fuel, encodePkt l < 2 ^ fuel → decodePktF fuel (encodePkt l) = l := by
  induction l with
  | nil => intro fuel _; cases fuel <;> rfl
  | cons x rest ih =>
    intro fuel hf
    have hx : x + 1 < pktBase := hl x (by simp)
    cases fuel with
    | zero => simp only [encodePkt] at hf; omega
    | succ f =>
      have hne : ¬ (x + 1 + pktBase * encodePkt rest = 0) := by omega
      have hmod : (x + 1 + pktBase * encodePkt rest) % pktBase = x + 1 := by
        rw [Nat.add_mul_mod_self_left, Nat.mod_eq_of_lt hx]
      have hdiv : (x + 1 + pktBase * encodePkt rest) / pktBase = encodePkt rest := by
        rw [Nat.add_mul_div_left _ _ pktBase_pos, Nat.div_eq_of_lt hx, Nat.zero_add]
      have h2 : 2 * encodePkt rest ≤ pktBase * encodePkt rest := Nat.mul_le_mul_right _ (by decide)
      simp only [decodePktF, encodePkt, hne, if_false, hmod, hdiv, Nat.add_sub_cancel] at hf ⊢
      rw [ih (fun y hy => hl y (by simp [hy])) f (by rw [Nat.pow_succ] at hf; omega)]

theorem decode_encode (l : List Nat) (hl : ∀ x ∈ l, x + 1 < pktBase) : decodePkt (encodePkt l) = l :=
  decodePktF_encode l hl _ Nat.lt_log2_self

/-- one more packet: its own tags (from 0, as a call reports them) moved to where it starts -/
theorem v2sTags_append (off : Nat) (a : List (List Nat)) (p : List Nat) :
    v2sTags off (a ++ [p]) = v2sTags off a ++ (v2sTags 0 [p]).map (Dsp.up (off + a.flatten.length)) := by
  induction a generalizing off with
  | nil => cases p <;> simp [v2sTags, Dsp.up]
  | cons q rest ih =>
    simp only [List.cons_append, v2sTags, List.flatten_cons, List.length_append, List.append_assoc, ih, Nat.add_assoc]

theorem v2sWork_nil (ts : List Tag) (al : Bool) (f : Nat) (al' : Bool) :
    v2sWork () ⟨[⟨[], ts, al⟩], [⟨f, al'⟩]⟩ = ((), ⟨[0], [⟨[], []⟩], .waitIn 0 1⟩) := rfl

theorem v2sWork_cons (p : List Nat) (hp : ∀ x ∈ p, x + 1 < pktBase) (rest : List Nat) (ts : List Tag) (al : Bool)
    (f : Nat) (al' : Bool) :
    v2sWork () ⟨[⟨encodePkt p :: rest, ts, al⟩], [⟨f, al'⟩]⟩ =
      if p.length > f then ((), ⟨[0], [⟨[], []⟩], .waitOut 0 p.length⟩)
      else ((), ⟨[1], [⟨p, v2sTags 0 [p]⟩], .again⟩) := by
  simp only [v2sWork, in0_cons, out0_cons, noOut_one, decode_encode p hp]
  split
  · rfl
  · cases p <;> simp [v2sTags]

def V2SInv (pk : List (List Nat)) (c : Nat) (out : List Nat) (ot : List Tag) : Prop :=
  c ≤ pk.length ∧ out = (pk.take c).flatten ∧ ot = v2sTags 0 (pk.take c)

theorem v2sInv_init (pk : List (List Nat)) : V2SInv pk 0 [] [] := ⟨Nat.zero_le _, rfl, rfl⟩

theorem v2s_drive (pk : List (List Nat)) (hpk : ∀ p ∈ pk, ∀ x ∈ p, x + 1 < pktBase) (sched : List (Nat × Nat)) :
    ∀ c out ot, V2SInv pk c out ot →
      let r := driveV2S pk c out ot sched
      V2SInv pk r.1 r.2.1 r.2.2 := by
  induction sched with
  | nil => intro c out ot h; exact h
  | cons af rest ih =>
    intro c out ot h
    obtain ⟨a, f⟩ := af
    obtain ⟨hc, rfl, rfl⟩ := h
    simp only [driveV2S]
    cases hwin : (pk.drop c).take a with
    | nil =>
      simp only [List.map_nil, v2sWork_nil]
      exact ih _ _ _ ⟨hc, List.append_nil _, List.append_nil _⟩
    | cons p ps =>
      -- the head of the window is `pk[c]`
      obtain ⟨-, hpc⟩ : ¬ a = 0 ∧ pk[c]? = some p := by
        simpa [List.head?_take, List.head?_drop] using congrArg List.head? hwin
      simp only [List.map_cons, v2sWork_cons p (hpk p (List.mem_of_getElem? hpc))]
      split
      · exact ih _ _ _ ⟨hc, List.append_nil _, List.append_nil _⟩
      · -- the packet is popped: one more packet
        have htake : pk.take (c + 1) = pk.take c ++ [p] := by rw [List.take_add_one, hpc]; rfl
        simp only [List.getD_cons_zero]
        refine ih _ _ _ ⟨(List.getElem?_eq_some_iff.mp hpc).elim fun h _ => h, ?_, ?_⟩
        · rw [htake, List.flatten_append, List.flatten_singleton]
        · rw [htake, v2sTags_append, Nat.zero_add]; rfl

end RR.Blk
