import RR.Proof.Sched

/-!
The multi-threaded runner `MTGraph::run`: the loop of one block thread (`mtLoop`), each theorem about it by
induction along its one-step equation `mtLoop_succ`, and the joined result (`mtResult`).
-/
namespace RR.Sched

/-- how a call's answer ends the block thread of `MTGraph::run`, if it does -/
def Call.mtExit (c : Call) : Option Exit :=
  match c.v with
  | .err => some .failed
  | .eof => some .eof
  | .waitFunc => if c.eofAfter then some .retired else none
  | .waitStream _ never => if c.eofAfter || never then some .retired else none
  | _ => none

theorem Call.mtExit_some (c : Call) (e : Exit) (h : c.mtExit = some e) :
    (e = .failed ∧ c.v = .err) ∨ (e = .eof ∧ c.v = .eof) ∨
    (e = .retired ∧ (c.eofAfter = true ∨ ∃ cl, c.v = .waitStream cl true)) := by
  obtain ⟨v, ea, m⟩ := c
  cases v <;> simp_all [Call.mtExit]

theorem mtLoop_succ (script : Script) (cancelAt : Option Nat) (k fuel : Nat) :
    mtLoop script cancelAt k (fuel + 1) =
      if seenCancel cancelAt k then (k, .cancelled)
      else match (callAt script k).mtExit with
        | some e => (k + 1, e)
        | none => mtLoop script cancelAt (k + 1) fuel := by
  rw [mtLoop]
  generalize callAt script k = c
  obtain ⟨v, e, m⟩ := c
  cases v
  case waitFunc => cases e <;> rfl
  case waitStream _ never => cases e <;> cases never <;> rfl
  all_goals rfl

/-- How the loop ended, read off the last call's answer. -/
theorem mtLoop_exit (script : Script) (cancelAt : Option Nat) (k fuel : Nat) :
    let r := mtLoop script cancelAt k fuel
    (r.2 = .outOfFuel ∧ r.1 = k + fuel) ∨
    (r.2 = .cancelled ∧ seenCancel cancelAt r.1 = true) ∨
    (0 < r.1 ∧ (callAt script (r.1 - 1)).mtExit = some r.2) := by
  induction fuel generalizing k with
  | zero => exact Or.inl ⟨rfl, rfl⟩
  | succ fuel ih =>
    rw [mtLoop_succ]
    split
    · next hc => exact Or.inr (Or.inl ⟨rfl, hc⟩)
    · split
      · next e he => exact Or.inr (Or.inr ⟨Nat.succ_pos k, he⟩)
      · exact (ih (k + 1)).imp_left fun ⟨a, b⟩ => ⟨a, by omega⟩

/-- A thread whose loop ends `failed` made its last call on an `Err` answer, and vice versa: an
`Err` answer always ends the loop as `failed`. -/
theorem mtLoop_failed (script : Script) (cancelAt : Option Nat) (k fuel : Nat) :
    (mtLoop script cancelAt k fuel).2 = .failed →
      (callAt script ((mtLoop script cancelAt k fuel).1 - 1)).v = .err ∧
      0 < (mtLoop script cancelAt k fuel).1 := by
  intro h
  have := mtLoop_exit script cancelAt k fuel
  simp only [h, reduceCtorEq, false_and, false_or] at this
  exact ⟨by simpa using Call.mtExit_some _ _ this.2, this.1⟩

theorem mtLoop_cancel (script : Script) (c k fuel : Nat) :
    (mtLoop script (some c) k fuel).1 ≤ max k c := by
  induction fuel generalizing k with
  | zero => exact Nat.le_max_left k c
  | succ fuel ih =>
    rw [mtLoop_succ]
    split
    · exact Nat.le_max_left k c
    · next hc =>
      -- call `k` is begun with the token unseen
      have hk : k < c := by simpa [seenCancel] using hc
      split
      · exact Nat.le_trans hk (Nat.le_max_right k c)
      · exact Nat.le_trans (ih (k + 1)) (by omega)

theorem mtLoop_terminates (script : Script) (cancelAt : Option Nat) (k fuel : Nat)
    (h : script.length < k + fuel) (hk0 : k ≤ script.length) :
    (mtLoop script cancelAt k fuel).2 ≠ .outOfFuel := by
  induction fuel generalizing k with
  | zero => omega
  | succ fuel ih =>
    rw [mtLoop_succ]
    split
    · nofun
    · split
      · next e he => rcases Call.mtExit_some _ _ he with ⟨rfl, _⟩ | ⟨rfl, _⟩ | ⟨rfl, _⟩ <;> nofun
      · next he =>
        -- the call past the script answers `EOF` and ends the thread, so this one was within the script
        refine ih (k + 1) (by omega) (Nat.lt_of_le_of_ne hk0 fun hk => ?_)
        rw [callAt_exhausted script k (Nat.le_of_eq hk.symm)] at he
        simp [Call.mtExit] at he

/-- Used at a constructor `r`, where the right side reduces to its line. -/
theorem mtResult_eq_iff (exits : List Exit) (r : Result) :
    mtResult exits = r ↔
      match r with
      | .ok => exits.findIdx? (· == .failed) = none
      | .err n => exits.findIdx? (· == .failed) = some n
      | .outOfFuel => False := by
  unfold mtResult
  cases exits.findIdx? (· == .failed) <;> cases r <;> simp

theorem mtResult_ok (exits : List Exit) : mtResult exits = .ok ↔ ∀ e ∈ exits, e ≠ .failed :=
  (mtResult_eq_iff exits .ok).trans (List.findIdx?_eq_none_iff.trans (by simp))

end RR.Sched
