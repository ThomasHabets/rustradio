import RR.Spec.Chain
import RR.Proof.HdlcStep
import RR.Proof.GetD
import RR.Proof.HdlcCrcDetect

/-!
Round trip. Destuffing undoes stuffing bit by bit, the deframer's `ones` counter following
`stuffFrom`'s (`run_stuffed`); `toBytes` undoes `lsbBits`; the closing flag then meets the fast path
of `find_right_crc` (`run_closing`). A frame ends where it began, right after a flag, so frames
chain, after whatever bits leave the deframer there (`run_bodies`).
-/
namespace RR.Hdlc
open RR.HdlcSpec

theorem run_stuffed (cfg : Cfg) (ones : Nat) (d : List Nat) (hd : ∀ b ∈ d, b < 2) (acc : List Nat) (h5 : ones < 5)
    (hl : acc.length + d.length ≤ cfg.maxSize * 8 + 7) :
    ∃ ones', ones' < 5 ∧ run cfg (.synced ones acc) (stuffFrom ones d) = (.synced ones' (d.reverse ++ acc), []) := by
  fun_induction stuffFrom ones d generalizing acc with
  | case1 ones => exact ⟨ones, h5, rfl⟩
  | case2 ones rest h4 ih =>
    -- fifth one: a zero is stuffed after it
    simp only [List.length_cons] at hl
    rw [run_cons_none cfg _ _ _ _ (step_data_one cfg ones acc h5 (by omega)), h4,
      run_cons_none cfg _ _ _ _ (step_stuffed_zero cfg (1 :: acc) (by simp only [List.length_cons]; omega))]
    simpa using ih (fun x hx => hd x (List.mem_cons_of_mem _ hx)) (1 :: acc) (by omega)
      (by simp only [List.length_cons]; omega)
  | case3 ones rest h4 ih =>
    simp only [List.length_cons] at hl
    rw [run_cons_none cfg _ _ _ _ (step_data_one cfg ones acc h5 (by omega))]
    simpa using ih (fun x hx => hd x (List.mem_cons_of_mem _ hx)) (1 :: acc) (by omega)
      (by simp only [List.length_cons]; omega)
  | case4 ones b rest hb ih =>
    simp only [List.length_cons] at hl
    obtain rfl : b = 0 := by have := hd b List.mem_cons_self; omega
    rw [run_cons_none cfg _ _ _ _ (step_data_zero cfg ones acc h5 (by omega))]
    simpa using ih (fun x hx => hd x (List.mem_cons_of_mem _ hx)) (0 :: acc) (by omega)
      (by simp only [List.length_cons]; omega)

theorem testBit_foldl_or (f : Nat → Nat) (hf : ∀ i, f i < 2) (n k : Nat) :
    ((List.range n).foldl (fun acc i => acc ||| (f i <<< i)) 0).testBit k =
      (decide (k < n) && (f k).testBit 0) := by
  induction n with
  | zero => simp
  | succ n ih =>
    rw [List.range_succ, List.foldl_append, List.foldl_cons, List.foldl_nil, Nat.testBit_or, ih,
      Nat.testBit_shiftLeft]
    rcases Nat.lt_trichotomy k n with h | rfl | h
    · simp [h, Nat.not_le.mpr h, Nat.lt_succ_of_lt h]
    · simp
    · have : (f n).testBit (k - n) = false :=
        Nat.testBit_lt_two_pow (Nat.lt_of_lt_of_le (hf n) (Nat.pow_le_pow_right Nat.zero_lt_two (by omega : 1 ≤ k - n)))
      simp [this, Nat.not_lt.mpr (Nat.le_of_lt h), Nat.not_lt.mpr (Nat.succ_le_of_lt h)]

theorem bits2byte_byteBits (b : Nat) (h : b < 256) : bits2byte (byteBits b) = b := by
  apply Nat.eq_of_testBit_eq; intro k
  have hg : ∀ i, (byteBits b).getD i 0 < 2 := by
    intro i
    by_cases hi : i < 8
    · rw [byteBits, getD_map_range _ _ hi]; exact Nat.mod_lt _ (by decide)
    · rw [getD_of_le _ (by simp [byteBits]; omega)]; decide
  rw [bits2byte, testBit_foldl_or _ hg]
  by_cases hk : k < 8
  · rw [byteBits, getD_map_range _ _ hk, decide_eq_true hk, Bool.true_and,
      Nat.testBit_mod_two_pow (j := 1), Nat.testBit_shiftRight]
    simp
  · rw [decide_eq_false hk, Bool.false_and]
    exact (Nat.testBit_lt_two_pow (Nat.lt_of_lt_of_le h (Nat.pow_le_pow_right Nat.zero_lt_two (by omega : 8 ≤ k)))).symm

theorem byteBits_eq (b : Nat) : byteBits b =
    [(b >>> 0) % 2, (b >>> 1) % 2, (b >>> 2) % 2, (b >>> 3) % 2, (b >>> 4) % 2, (b >>> 5) % 2, (b >>> 6) % 2,
      (b >>> 7) % 2] := rfl

theorem lsbBits_cons (b : Nat) (rest : List Nat) : lsbBits (b :: rest) = byteBits b ++ lsbBits rest := rfl

theorem toBytes_lsbBits (bytes : List Nat) (hb : ∀ b ∈ bytes, b < 256) : toBytes (lsbBits bytes) = bytes := by
  induction bytes with
  | nil => rfl
  | cons b rest ih =>
    rw [lsbBits_cons, byteBits_eq]
    simp only [List.cons_append, List.nil_append, toBytes]
    rw [← byteBits_eq, bits2byte_byteBits b (hb b (by simp)), ih (fun x hx => hb x (by simp [hx]))]

theorem lsbBits_length (bytes : List Nat) : (lsbBits bytes).length = 8 * bytes.length := by
  simp [lsbBits, byteBits, List.map_const', Nat.mul_comm]

theorem frameBits_length (p : List Nat) :
    (lsbBits (p ++ le16 (crcBitwise p))).length = 8 * (p.length + 2) := by
  rw [lsbBits_length]; simp [le16]

theorem lsbBits_bits (bytes : List Nat) : ∀ x ∈ lsbBits bytes, x < 2 :=
  List.forall_mem_flatMap.mpr fun _ _ => List.forall_mem_map.mpr fun _ _ => Nat.mod_lt _ Nat.zero_lt_two

theorem run_flag (cfg : Cfg) (ones : Nat) (acc : List Nat) (h5 : ones < 5)
    (hl : acc.length + 6 ≤ cfg.maxSize * 8 + 7) :
    run cfg (.synced ones acc) flag = run cfg (.finalCheck (1 :: 1 :: 1 :: 1 :: 1 :: 1 :: 0 :: acc)) [0] := by
  unfold flag
  rw [run_cons_none cfg _ _ _ _ (step_data_zero cfg ones acc h5 (by omega)),
    run_cons_none cfg _ _ _ _ (step_data_one cfg 0 _ (by omega) (by simp only [List.length_cons]; omega)),
    run_cons_none cfg _ _ _ _ (step_data_one cfg 1 _ (by omega) (by simp only [List.length_cons]; omega)),
    run_cons_none cfg _ _ _ _ (step_data_one cfg 2 _ (by omega) (by simp only [List.length_cons]; omega)),
    run_cons_none cfg _ _ _ _ (step_data_one cfg 3 _ (by omega) (by simp only [List.length_cons]; omega)),
    run_cons_none cfg _ _ _ _ (step_data_one cfg 4 _ (by omega) (by simp only [List.length_cons]; omega)),
    run_cons_none cfg _ _ _ _ (step_sixth_one cfg _ (by simp only [List.length_cons]; omega))]

theorem run_closing (cfg : Cfg) (p : List Nat) (hp : ∀ b ∈ p, b < 256) (ones : Nat) (h5 : ones < 5)
    (hs : cfg.stripChecksum = true) (hmin : cfg.minSize ≤ p.length + 2) (hmax : p.length + 2 ≤ cfg.maxSize) :
    run cfg (.synced ones ((lsbBits (p ++ le16 (crcBitwise p))).reverse)) flag = (.synced 0 [], [p]) := by
  have hcrc := crcBitwise_lt p hp
  have hbytes : toBytes (lsbBits (p ++ le16 (crcBitwise p))) = p ++ le16 (crcBitwise p) := by
    refine toBytes_lsbBits _ (List.forall_mem_append.mpr ⟨hp, ?_⟩)
    simp only [le16, List.forall_mem_cons, List.not_mem_nil, false_imp_iff, implies_true, and_true]
    omega
  have hg : 7 ≤ 8 * (p.length + 2) + 7 ∧ (8 * (p.length + 2) + 7 - 7) % 8 = 0 ∧
      cfg.minSize ≤ (8 * (p.length + 2) + 7 - 7) / 8 := by omega
  have hblen : (p ++ le16 (crcBitwise p)).length = p.length + 2 := by simp [le16]
  have hgot : (p ++ le16 (crcBitwise p)).getD (p.length + 2 - 2) 0 +
      256 * (p ++ le16 (crcBitwise p)).getD (p.length + 2 - 1) 0 = calcCrc p := by
    rw [getD_append_ge _ _ (by omega), getD_append_ge _ _ (by omega), calcCrc_eq_bitwise p hp,
      (by omega : p.length + 2 - 2 - p.length = 0), (by omega : p.length + 2 - 1 - p.length = 1)]
    exact Nat.mod_add_div _ _
  rw [run_flag cfg ones _ h5 (by rw [List.length_reverse, frameBits_length]; omega)]
  simp only [run, step_final cfg _ 0 (by decide), List.drop_succ_cons, List.drop_zero, List.reverse_reverse, hbytes,
    List.length_cons, List.length_reverse, frameBits_length, hg, hblen, hgot, hs, if_true,
    (List.take_left' rfl : (p ++ le16 (crcBitwise p)).take (p.length + 2 - 2) = p), findRightCrc_ok,
    Nat.le_add_left, and_self, Option.getD_none]

theorem run_body (cfg : Cfg) (p : List Nat) (hp : ∀ b ∈ p, b < 256)
    (hs : cfg.stripChecksum = true) (hmin : cfg.minSize ≤ p.length + 2) (hmax : p.length + 2 ≤ cfg.maxSize) :
    run cfg (.synced 0 []) (body p) = (.synced 0 [], [p]) := by
  unfold body stuff
  obtain ⟨o', ho', hrun⟩ := run_stuffed cfg 0 (lsbBits (p ++ le16 (crcBitwise p))) (lsbBits_bits _) []
    (by omega) (by simp only [List.length_nil, frameBits_length]; omega)
  rw [run_append, hrun, List.append_nil, run_closing cfg p hp o' ho' hs hmin hmax]
  rfl

theorem run_idle_flag (cfg : Cfg) (hs : cfg.stripChecksum = true) :
    run cfg (.synced 0 []) flag = (.synced 0 [], []) := by
  rw [run_flag cfg 0 [] (by omega) (by simp)]
  simp [run, step_final, hs, toBytes]

/-- `ps`: the payloads, each with the number of idle flags sent after it; consecutive frames share a flag.
They are delivered after any bits `pre` that leave the deframer right after a flag: an opening flag
(`run_opening`), or any noise and then a flag (`resync_after_noise`); what `pre` made it deliver comes first. -/
theorem run_bodies (cfg : Cfg) (hs : cfg.stripChecksum = true) (ps : List (List Nat × Nat))
    (hps : ∀ q ∈ ps, (∀ b ∈ q.1, b < 256) ∧ cfg.minSize ≤ q.1.length + 2 ∧ q.1.length + 2 ≤ cfg.maxSize)
    {s : State} {pre : List Nat} (hpre : (run cfg s pre).1 = .synced 0 []) :
    run cfg s (pre ++ ps.flatMap fun q => body q.1 ++ (List.replicate q.2 flag).flatten) =
      (.synced 0 [], (run cfg s pre).2 ++ ps.map (·.1)) := by
  rw [run_append, hpre]
  suffices h : run cfg (.synced 0 []) (ps.flatMap fun q => body q.1 ++ (List.replicate q.2 flag).flatten) =
      (.synced 0 [], ps.map (·.1)) by rw [h]
  induction ps with
  | nil => rfl
  | cons q rest ih =>
    obtain ⟨h1, h2, h3⟩ := hps q (by simp)
    have hidle : ∀ n, run cfg (.synced 0 []) (List.replicate n flag).flatten = (.synced 0 [], []) := by
      intro n
      induction n with
      | zero => rfl
      | succ n ihn =>
        rw [List.replicate_succ, List.flatten_cons, run_append, run_idle_flag cfg hs, ihn]
        rfl
    rw [List.flatMap_cons, run_append, run_append, run_body cfg q.1 h1 hs h2 h3, hidle q.2,
      ih (fun x hx => hps x (by simp [hx]))]
    simp

end RR.Hdlc
