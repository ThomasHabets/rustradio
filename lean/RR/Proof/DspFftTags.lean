import RR.Proof.DspFftLoop
import RR.Proof.Drive

/-!
Tags through `FftFilter::work`, for every chunking: the block keeps the tags of
the samples of an unfinished batch (`buf_tags`, batch-relative) across calls and
hands them on with the batch. Whatever the read windows and output space, the
tags handed downstream so far are exactly the input tags that sit on the samples
already emitted — each once, at the same absolute index — and the tags of the
buffered samples are all still held. (Equalities are up to order: `List.Perm`.)
-/
namespace RR.Dsp
open RR RR.Blk

variable {α : Type}

/-- the tags the loop picks out of the window for the samples `[pos, pos + add)`, rebased to the batch -/
theorem newTags_eq (T : List Tag) (c wl pos add base Bs : Nat) (hfit : pos + add ≤ wl) (hb : c + pos = Bs + base) :
    ((winTags T c wl).filter fun t => decide (pos ≤ t.pos ∧ t.pos < pos + add)).map
        (fun t => { t with pos := base + (t.pos - pos) }) =
      (rng T (c + pos) (c + pos + add)).map (sh Bs) := by
  rw [winTags_filter T c wl pos (pos + add) hfit, List.map_map, ← Nat.add_assoc]
  refine rng_map_congr T _ _ _ _ fun t h1 h2 => ?_
  simp only [Function.comp, sh]
  congr 1
  omega

def FftTagInv (taps : List α) (T : List Tag) (st : FftSt α) (c : Nat) (out : List Nat) (ot : List Tag) : Prop :=
  st.buf.length < calcFftSize taps.length - taps.length ∧ c = out.length + st.buf.length ∧
  st.bufTags.Perm ((rng T out.length c).map (sh out.length)) ∧ ot.Perm (rng T 0 out.length)

theorem fft_tag_init (o : Ops α) (taps : List α) (T : List Tag) :
    FftTagInv taps T ⟨[], [], List.replicate taps.length o.zero⟩ 0 [] [] :=
  ⟨by simpa using calcFftSize_batch_pos taps.length, rfl, by simp [rng_empty], by simp [rng_empty]⟩

/-- The loop's own tag list is relative to the call; `driveT` rebases it by the `out.length` samples emitted
before, hence `up out.length` in the loop invariant. -/
theorem fft_tag_step (o : Ops α) (cd : Codec α) (taps : List α) (X : List Nat) (T : List Tag) (st : FftSt α)
    (c : Nat) (out : List Nat) (ot : List Tag) (a f : Nat) (h : FftTagInv taps T st c out ot) :
    let w := (X.drop c).take a
    let r := fftWork o cd taps st ⟨[⟨w, winTags T c w.length, true⟩], [⟨f, true⟩]⟩
    let p := r.2.produced.getD 0 ⟨[], []⟩
    FftTagInv taps T r.1 (c + r.2.consumed.getD 0 0) (out ++ p.samples) (ot ++ p.tags.map (up out.length)) := by
  intro w
  refine (fftWork_ind o cd taps ⟨w, winTags T c w.length, true⟩ ⟨f, true⟩
    (fun st pos outp otags => pos ≤ w.length ∧
      FftTagInv taps T st (c + pos) (out ++ outp) (ot ++ otags.map (up out.length)))
    (fun st pos outp otags add h => ?_) st ⟨Nat.zero_le _, by simpa using h⟩).2
  obtain ⟨hpos, hlt, hc, hheld, hot⟩ := h
  simp only [FftTagInv, List.length_append, List.length_map, fftBatch_fst_length, ← Nat.add_assoc] at hc hheld hot ⊢
  generalize calcFftSize taps.length - taps.length = S at hlt ⊢
  generalize hE : out.length + outp.length = E at hc hheld hot ⊢
  intro _ hadd1 hadd2 hlen
  -- the tags buffered after this round
  have hbt := hheld.rng_append (sh E) (c + pos + add) (by omega) (by omega)
  rw [← newTags_eq T c w.length pos add st.buf.length E (by omega) (by omega)] at hbt
  refine ⟨fun hshort => ⟨by omega, by omega, by omega, hbt, hot⟩, fun hfull => ?_⟩
  -- a batch goes out: `S` more samples, with the tags buffered for them
  rw [show c + pos + add = E + S by omega] at hbt ⊢
  refine ⟨by omega, Nat.zero_lt_of_lt hlt, rfl, by simp [rng_empty], ?_⟩
  rw [List.map_append, ← List.append_assoc, List.map_map]
  have hup : (up out.length ∘ fun t : Tag => { t with pos := outp.length + t.pos }) = up E := by
    funext t; simp only [Function.comp, up, ← hE, Nat.add_assoc]
  rw [hup]
  refine (hot.append (hbt.map (up E))).trans ?_
  rw [map_sh_up_id _ _ (fun t ht => (rng_mem T _ _ t ht).1)]
  exact rng_append_perm T 0 E (E + S) (Nat.zero_le _) (Nat.le_add_right _ _)

theorem fft_driveT (o : Ops α) (cd : Codec α) (taps : List α) (X : List Nat) (T : List Tag)
    (sched : List (Nat × Nat)) :
    ∀ st c out ot, FftTagInv taps T st c out ot →
      let r := driveT (fftBlock o cd taps) X T st c out ot sched
      FftTagInv taps T r.1 r.2.1 r.2.2.1 r.2.2.2 :=
  driveT_inv (fftBlock o cd taps) X T (FftTagInv taps T) (fft_tag_step o cd taps X T) sched

end RR.Dsp
