import RR.Spec.Blocks
import RR.Proof.Drive

/-!
Generator sources and sinks, for every schedule. A generator call is `genTake` of the room offered
(`genWork_one`), so any sequence of calls is one `genTake` of the sum (`gen_drive`, by `genTake_add`).
`VectorSink` from any fill level stores what still fits of each window (`vsink_call`); `sink_drive` is the
closed form over any sequence of windows, `min_add_min_sub` and `sub_add_min` its arithmetic.
-/
namespace RR.Blk

theorem genTake_length (G : GenSrc) (n : Nat) (s : G.σ) : (genTake G n s).2.length = n := by
  induction n generalizing s with
  | zero => rfl
  | succ n ih => simp only [genTake, List.length_cons, ih]

theorem genTake_add (G : GenSrc) (a b : Nat) (s : G.σ) :
    genTake G (a + b) s =
      ((genTake G b (genTake G a s).1).1, (genTake G a s).2 ++ (genTake G b (genTake G a s).1).2) := by
  induction a generalizing s with
  | zero => simp [genTake]
  | succ a ih => rw [Nat.add_right_comm]; simp only [genTake, ih, List.cons_append]

theorem genWork_one (G : GenSrc) (s : G.σ) (f : Nat) :
    genWork G s ⟨[], [⟨f, true⟩]⟩ =
      ((genTake G f s).1, ⟨[], [⟨(genTake G f s).2, []⟩], if f = 0 then .waitOut 0 1 else .again⟩) := by
  cases f <;> rfl

theorem gen_drive (G : GenSrc) (fs : List Nat) (s : G.σ) : genDrive G fs s = genTake G fs.sum s := by
  induction fs generalizing s with
  | nil => rfl
  | cons f fs ih => simp only [genDrive, genWork_one, List.getD_cons_zero, List.sum_cons, genTake_add, ih]

theorem vsink_call (max st : Nat) (w : List Nat) (ts : List Tag) (al : Bool) (outs : List OutView) :
    let r := vsinkWork max st ⟨[⟨w, ts, al⟩], outs⟩
    r.1 = st + min w.length (max - st) ∧
    r.2.consumed = [w.length] ∧
    (r.2.produced.getD 0 ⟨[], []⟩).samples = w.take (max - st) ∧
    (∀ t ∈ (r.2.produced.getD 0 ⟨[], []⟩).tags, t ∈ ts ∧ t.pos < (r.2.produced.getD 0 ⟨[], []⟩).samples.length) ∧
    r.2.verdict = .waitIn 0 1 := by
  intro r
  simp only [r, vsinkWork, in0_cons, List.getD_cons_zero]
  refine ⟨trivial, trivial, ?_, ?_, trivial⟩
  · rw [Nat.min_comm, ← List.take_eq_take_min]
  · intro t ht
    rw [List.length_take, Nat.min_eq_left (Nat.min_le_left _ _)]
    exact ⟨(List.mem_filter.mp ht).1, of_decide_eq_true (List.mem_filter.mp ht).2⟩

/-- storing what fits of `a` samples, then of `b`, in room `r` is storing what fits of `a + b` -/
theorem min_add_min_sub (a b r : Nat) : min a r + min b (r - a) = min (a + b) r := by
  rcases Nat.le_total a r with h | h
  · rw [Nat.min_eq_left h, ← Nat.add_min_add_left, Nat.add_sub_cancel' h]
  · rw [Nat.min_eq_right h, Nat.sub_eq_zero_of_le h, Nat.min_zero, Nat.min_eq_right (Nat.le_trans h (Nat.le_add_right a b)),
      Nat.add_zero]

/-- the room left after storing what fits of `a` samples -/
theorem sub_add_min (m s a : Nat) : m - (s + min a (m - s)) = m - s - a := by
  rcases Nat.le_total a (m - s) with h | h
  · rw [Nat.min_eq_left h, Nat.sub_add_eq]
  · rw [Nat.min_eq_right h, Nat.sub_add_eq, Nat.sub_self, Nat.sub_eq_zero_of_le h]

theorem sink_drive (max : Nat) (ws : List (List Nat)) (st : Nat) :
    sinkDrive max ws st = (st + min ws.flatten.length (max - st), ws.flatten.take (max - st)) := by
  induction ws generalizing st with
  | nil => simp [sinkDrive]
  | cons w ws ih =>
    obtain ⟨h1, -, h3, -, -⟩ := vsink_call max st w [] true []
    simp only [sinkDrive]
    rw [h1, h3, ih, sub_add_min, Nat.add_assoc, min_add_min_sub, List.flatten_cons, List.length_append, List.take_append]

theorem null_call (w : List Nat) (ts : List Tag) (al : Bool) :
    let r := nullWork () ⟨[⟨w, ts, al⟩], []⟩
    r.2.consumed = [w.length] ∧ r.2.produced = [] ∧ r.2.verdict = .waitIn 0 1 := by
  simp [nullWork]

end RR.Blk
