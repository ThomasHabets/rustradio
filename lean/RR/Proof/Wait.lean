import RR.Model.Wait

/-! Soundness is an invariant of `exec` over arbitrary schedules (`exec_inv`), and what keeps it is
that a peer that is gone does nothing (`envStep_dead`): once liveness has been read as `false` the
shared state is frozen, so that reading stays right and an amount read after it is final. On a state
whose peer is already gone a completed run is `prog.foldl (observe s)` (`exec_dead_local`), which
depends only on which kinds of observation occur (`foldl_observe`): hence the exact verdict and
arrival. That observations leave the shared state to the peer's steps is `exec_fst`. -/
namespace RR.Wait

theorem envStep_dead (s : Sh) (e : Env) (h : s.peerAlive = false) : envStep s e = s := by
  obtain ⟨a, p⟩ := s
  cases h
  cases e <;> rfl

theorem envSteps_dead (s : Sh) (h : s.peerAlive = false) (es : List Env) :
    es.foldl envStep s = s :=
  List.foldlRecOn (motive := (· = s)) es _ rfl fun _ hs e _ => hs ▸ envStep_dead s e h

theorem exec_fst (prog : List Obs) (s : Sh) (l : Local) (sched : List (Option Env)) :
    (exec prog s l sched).1 = (sched.filterMap id).foldl envStep s := by
  induction sched generalizing prog s l with
  | nil => rfl
  | cons x rest ih =>
    cases x with
    | some e => exact ih prog _ l
    | none => cases prog <;> exact ih _ s _

theorem exec_no_discard (prog : List Obs) (s : Sh) (l : Local) (k : Nat) :
    (exec prog s l (List.replicate k none)).1 = s := by
  rw [exec_fst, List.filterMap_replicate_of_none rfl]; rfl

theorem exec_dead (prog : List Obs) (s : Sh) (l : Local) (sched : List (Option Env))
    (hd : s.peerAlive = false) : (exec prog s l sched).1 = s := by
  rw [exec_fst, envSteps_dead s hd]

theorem exec_inv (P : List Obs → Sh → Local → Prop)
    (henv : ∀ p s l e, P p s l → P p (envStep s e) l)
    (hobs : ∀ o p s l, P (o :: p) s l → P p s (observe s l o))
    (prog : List Obs) (s : Sh) (l : Local) (sched : List (Option Env)) (h : P prog s l) :
    P (exec prog s l sched).2.2 (exec prog s l sched).1 (exec prog s l sched).2.1 := by
  induction sched generalizing prog s l with
  | nil => exact h
  | cons x rest ih =>
    cases x with
    | some e => exact ih prog _ l (henv _ _ _ e h)
    | none =>
      cases prog with
      | nil => exact ih [] s l h
      | cons o p => exact ih p s _ (hobs o p s l h)

theorem verdict_true {l : Local} {need : Nat} (h : verdict l need = true) :
    ∃ u, l.a = some false ∧ l.u = some u ∧ u < need := by
  unfold verdict at h
  split at h
  next a u ha hu =>
    simp at h
    exact ⟨u, by rw [ha, h.2], hu, h.1⟩
  next => cases h

/-- The invariant "a peer seen gone is gone", through an observation. -/
theorem seen_observe {s : Sh} {l : Local} (h : l.a = some false → s.peerAlive = false) (o : Obs) :
    (observe s l o).a = some false → s.peerAlive = false := by
  cases o
  · exact fun ha => Option.some.inj ha
  · exact h
  · exact fun ha => Option.some.inj ha

theorem alive_seen (prog : List Obs) (s : Sh) (l : Local) (sched : List (Option Env))
    (h : l.a = some false → s.peerAlive = false) :
    (exec prog s l sched).2.1.a = some false → (exec prog s l sched).1.peerAlive = false :=
  exec_inv (fun _ s l => l.a = some false → s.peerAlive = false)
    (fun _ s _ e h ha => by rw [envStep_dead s e (h ha)]; exact h ha)
    (fun o _ _ _ h => seen_observe h o) prog s l sched h

/-! Writer side: only "peer seen gone ⇒ peer gone" is needed, any order works. -/

theorem sound_writer_any (prog : List Obs) : SoundWriter prog := by
  intro s sched need r _ hv
  obtain ⟨u, ha, _, _⟩ := verdict_true hv
  exact alive_seen prog s {} sched nofun ha

/-! Reader side. The order that works: the amount is read last (after liveness, or together with
it under the lock). Once the peer has been seen gone the shared state is frozen, so an amount
read at or after that moment is final. -/

theorem sound_amountLast {prog : List Obs} (hp : prog.getLast? ≠ some .alive) :
    SoundReader prog := by
  intro s sched need r hdone hv
  obtain ⟨u, ha, hu, hlt⟩ := verdict_true hv
  -- a peer seen gone is gone; the last read to come is not the liveness read; and once the program
  -- is through with the peer seen gone, the amount seen is current
  have ⟨h1, _, h3⟩ := exec_inv (fun p s l => (l.a = some false → s.peerAlive = false) ∧
      p.getLast? ≠ some .alive ∧ (p = [] → l.a = some false → l.u = some s.avail)) ?_ ?_
      prog s {} sched ⟨nofun, hp, fun _ => nofun⟩
  · cases hu.symm.trans (h3 hdone ha)
    exact ⟨h1 ha, hlt⟩
  · intro p s l e ⟨h1, h2, h3⟩
    refine ⟨fun ha => ?_, h2, fun hp ha => ?_⟩ <;> rw [envStep_dead s e (h1 ha)]
    · exact h1 ha
    · exact h3 hp ha
  · intro o p s l ⟨h1, h2, _⟩
    refine ⟨seen_observe h1 o, ?_, ?_⟩
    · cases p with
      | nil => nofun
      | cons => rwa [List.getLast?_cons_cons] at h2
    · rintro rfl _
      cases o
      · exact absurd rfl h2
      · rfl
      · rfl

theorem exec_dead_local (prog : List Obs) (s : Sh) (l : Local) (sched : List (Option Env))
    (hd : s.peerAlive = false) (hdone : (exec prog s l sched).2.2 = []) :
    (exec prog s l sched).2.1 = prog.foldl (observe s) l := by
  have hinv := exec_inv (fun p s' l' => s' = s ∧ p.foldl (observe s) l' = prog.foldl (observe s) l)
    ?_ ?_ prog s l sched ⟨rfl, rfl⟩
  · rw [hdone] at hinv; exact hinv.2
  · rintro p _ l' e ⟨rfl, h⟩; exact ⟨envStep_dead _ e hd, h⟩
  · rintro o p _ l' ⟨rfl, h⟩; exact ⟨rfl, h⟩

/-- Every observation of a kind writes the same value, so only the kinds that occur matter. -/
theorem foldl_observe (s : Sh) (prog : List Obs) (l : Local) :
    prog.foldl (observe s) l =
      ⟨if prog.contains .alive || prog.contains .both then some s.peerAlive else l.a,
       if prog.contains .avail || prog.contains .both then some s.avail else l.u⟩ := by
  induction prog generalizing l with
  | nil => rfl
  | cons o p ih =>
    rw [List.foldl_cons, ih]
    cases o <;> simp [observe]

theorem exact_after_close (prog : List Obs) (hc : Complete prog = true) (s : Sh) (sched : List (Option Env))
    (need : Nat) (hd : s.peerAlive = false) (hdone : (exec prog s {} sched).2.2 = []) :
    verdict (exec prog s {} sched).2.1 need = decide (s.avail < need) := by
  have hb : ∀ b a u : Bool, (b || (a && u)) = true → (a || b) = true ∧ (u || b) = true := by decide
  obtain ⟨ha, hu⟩ := hb _ _ _ hc
  rw [exec_dead_local prog s {} sched hd hdone, foldl_observe, if_pos ha, if_pos hu]
  simp [verdict, hd]

theorem arrives_of_complete (prog : List Obs) (hc : Complete prog = true) : Arrives prog := by
  intro s sched need hd hlt r hdone
  exact (exact_after_close prog hc s sched need hd hdone).trans (decide_eq_true hlt)

end RR.Wait
