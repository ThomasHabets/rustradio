import RR.Model.Sched
import RR.Proof.GetD

/-!
The single-threaded runner `Graph::run` (`stLoop`, `pass`, `callBlock`, `doCall`): what one call does, what a
pass keeps, and from those the loop's theorems on cancellation, errors, quiescence and termination. The block
thread of `MTGraph::run` is in `SchedMt.lean`.
-/
namespace RR.Sched

theorem callAt_exhausted (s : Script) (k : Nat) (h : s.length ≤ k) : callAt s k = ⟨.eof, true, false⟩ :=
  getD_of_le _ h

/-- the answers after which `Graph::run` sets `eof[n]` -/
def Call.retires (c : Call) : Bool :=
  match c.v with
  | .waitFunc => c.eofAfter
  | .waitStream closed _ => c.eofAfter || closed
  | .eof => true
  | _ => false

/-- the answers that clear `done` -/
def Call.asksAgain (c : Call) : Bool := c.v = .again || c.v = .pending

/-- `doCall` field by field; everything else about it is read off this. -/
theorem doCall_eq (scripts : List Script) (acc : PassOut) (n : Nat) :
    doCall scripts acc n =
      let k := acc.st.pos.getD n 0
      let c := callAt (scripts.getD n []) k
      ⟨{ pos := acc.st.pos.set n (k + 1),
         retired := if c.retires then acc.st.retired.set n true else acc.st.retired,
         log := acc.st.log ++ [n], answers := acc.st.answers ++ [c] },
       !c.asksAgain && acc.done, acc.moved || c.moved, if c.v = .err then some n else none⟩ := by
  simp only [doCall]
  generalize callAt (scripts.getD n []) (acc.st.pos.getD n 0) = c
  obtain ⟨v, e, m⟩ := c
  cases v
  case waitFunc => cases e <;> rfl
  case waitStream closed _ => cases e <;> cases closed <;> rfl
  all_goals rfl

theorem doCall_log (scripts : List Script) (acc : PassOut) (n : Nat) :
    (doCall scripts acc n).st.log = acc.st.log ++ [n] := by
  rw [doCall_eq]

theorem callBlock_cases (scripts : List Script) (acc : PassOut) (n : Nat) :
    callBlock scripts acc n = acc ∨
    (acc.failed = none ∧ acc.st.retired.getD n false = false ∧
      callBlock scripts acc n = doCall scripts acc n) := by
  unfold callBlock
  cases hf : acc.failed <;> cases hr : acc.st.retired.getD n false <;> simp

/-- The induction over a pass, done once: the pass calls a sublist `seg` of the blocks in order and skips the
rest (`callBlock_cases`); `P cs x` speaks of the accumulator `x` after the calls `cs`. -/
theorem fold_callBlock {P : List Nat → PassOut → Prop} (scripts : List Script) (l : List Nat)
    (call : ∀ cs acc, ∀ n ∈ l, acc.failed = none → acc.st.retired.getD n false = false → P cs acc →
      P (cs ++ [n]) (doCall scripts acc n))
    (cs : List Nat) (acc : PassOut) (h : P cs acc) :
    ∃ seg, seg.Sublist l ∧ P (cs ++ seg) (l.foldl (callBlock scripts) acc) := by
  induction l generalizing cs acc with
  | nil => exact ⟨[], .slnil, by rwa [List.append_nil]⟩
  | cons n l ih =>
    have ih := ih fun cs acc m hm => call cs acc m (List.mem_cons_of_mem _ hm)
    rw [List.foldl_cons]
    rcases callBlock_cases scripts acc n with e | ⟨hf, hr, e⟩ <;> rw [e]
    · obtain ⟨seg, h1, h2⟩ := ih cs acc h
      exact ⟨seg, h1.cons _, h2⟩
    · obtain ⟨seg, h1, h2⟩ := ih _ _ (call cs acc n List.mem_cons_self hf hr h)
      exact ⟨n :: seg, h1.cons_cons _, by rwa [List.append_assoc] at h2⟩

theorem pass_log (scripts : List Script) (st : ST) :
    ∃ seg, (pass scripts st).st.log = st.log ++ seg ∧ seg.Pairwise (· < ·) := by
  obtain ⟨seg, h1, h2⟩ := fold_callBlock (P := fun cs x => x.st.log = st.log ++ cs) scripts
    (List.range scripts.length) (fun _ acc n _ _ _ h => by rw [doCall_log, h, List.append_assoc])
    [] ⟨st, true, false, none⟩ (List.append_nil _).symm
  exact ⟨seg, h2, List.Pairwise.sublist h1 List.pairwise_lt_range⟩

theorem pass_cancel (scripts : List Script) (c : Nat) (st : ST) (h : st.log.length ≤ c) :
    ((pass scripts st).st.log.drop c).Pairwise (· < ·) := by
  obtain ⟨seg, h1, h2⟩ := pass_log scripts st
  rw [h1, List.drop_append, List.drop_eq_nil_of_le h, List.nil_append]
  exact h2.sublist (List.drop_sublist _ _)

theorem stLoop_cancel (scripts : List Script) (c : Nat) (st : ST) (fuel : Nat)
    (h : (st.log.drop c).Pairwise (· < ·)) :
    ((stLoop scripts (some c) st fuel).2.log.drop c).Pairwise (· < ·) := by
  fun_induction stLoop scripts (some c) st fuel with
  | case1 | case2 => exact h
  | case3 st _ hc | case4 st _ hc =>
    exact pass_cancel scripts c st (by simp [cancelled] at hc; omega)
  | case5 st _ hc _ _ _ ih =>
    exact ih (pass_cancel scripts c st (by simp [cancelled] at hc; omega))

def NoErr (a : List Call) : Prop := ∀ c ∈ a, c.v ≠ .err

def ErrLast (x : PassOut) : Prop :=
  (x.failed = none → NoErr x.st.answers) ∧
  ∀ m, x.failed = some m → x.st.answers.getLast?.map (·.v) = some .err ∧ x.st.log.getLast? = some m

theorem doCall_errLast (scripts : List Script) (acc : PassOut) (n : Nat)
    (h : NoErr acc.st.answers) : ErrLast (doCall scripts acc n) := by
  simp only [doCall_eq]
  generalize callAt (scripts.getD n []) (acc.st.pos.getD n 0) = c
  by_cases hv : c.v = .err
  · simp [ErrLast, hv]
  · simp only [ErrLast, hv, if_false]
    refine ⟨fun _ x hx => ?_, nofun⟩
    rcases List.mem_append.mp hx with hx | hx
    · exact h x hx
    · rw [List.mem_singleton.mp hx]; exact hv

theorem pass_errLast (scripts : List Script) (st : ST) (h : NoErr st.answers) :
    ErrLast (pass scripts st) :=
  have ⟨_, _, h⟩ := fold_callBlock (P := fun _ => ErrLast) scripts (List.range scripts.length)
    (fun _ acc n _ hf _ hacc => doCall_errLast scripts acc n (hacc.1 hf)) [] ⟨st, true, false, none⟩ ⟨fun _ => h, nofun⟩
  h

theorem stLoop_err (scripts : List Script) (cancelAt : Option Nat) (st : ST) (fuel : Nat)
    (h : NoErr st.answers) :
    let r := stLoop scripts cancelAt st fuel
    (r.1 = .ok → NoErr r.2.answers) ∧
    (∀ n, r.1 = .err n → (r.2.answers.getLast?.map (·.v)) = some .err ∧ r.2.log.getLast? = some n) := by
  fun_induction stLoop scripts cancelAt st fuel with
  | case1 => simp
  | case2 => simpa using h
  | case3 st _ _ p n hn => simpa using (pass_errLast scripts st h).2 n hn
  | case4 st _ _ p hn => simpa using (pass_errLast scripts st h).1 hn
  | case5 st _ _ p hn _ ih => exact ih ((pass_errLast scripts st h).1 hn)

theorem doCall_quiet (scripts : List Script) (acc : PassOut) (n : Nat)
    (h : (doCall scripts acc n).done = true ∧ (doCall scripts acc n).moved = false) :
    acc.done = true ∧ acc.moved = false ∧
     ∃ c, (doCall scripts acc n).st.answers = acc.st.answers ++ [c] ∧ c.moved = false ∧
       c.v ≠ .again ∧ c.v ≠ .pending := by
  rw [doCall_eq] at h ⊢
  simp only [Call.asksAgain, Bool.and_eq_true, Bool.not_eq_eq_eq_not, Bool.not_true,
    Bool.or_eq_false_iff, decide_eq_false_iff_not] at h
  obtain ⟨⟨⟨hagain, hpending⟩, hdone⟩, hmoved, hcmoved⟩ := h
  exact ⟨hdone, hmoved, _, rfl, hcmoved, hagain, hpending⟩

theorem stLoop_quiet (scripts : List Script) (st : ST) (fuel : Nat) (st' : ST)
    (h : stLoop scripts none st fuel = (.ok, st')) :
    ∃ st0, (pass scripts st0).st = st' ∧ (pass scripts st0).done = true ∧
      (pass scripts st0).moved = false ∧ (pass scripts st0).failed = none := by
  fun_induction stLoop scripts none st fuel with
  | case1 | case3 => cases h
  | case2 _ _ hc => cases hc
  | case4 st _ _ p hn hd =>
    cases h
    simp only [Bool.and_eq_true, Bool.not_eq_eq_eq_not, Bool.not_true] at hd
    exact ⟨st, rfl, hd.1, hd.2, hn⟩
  | case5 _ _ _ _ _ _ ih => exact ih h

/-- The script entries still to come, summed over the blocks. The loop goes round again only after a pass in which
some call asked to be called again or moved data, and such an answer is a script entry (past its script a block
answers a plain `EOF`): every pass but the last lowers this, so `totalCalls + 1` passes of fuel are enough
(`stRun` gives more). The `eof[]` flags play no part. -/
def budget (scripts : List Script) (pos : List Nat) : Nat :=
  (List.zipWith (fun (s : Script) p => s.length - p) scripts pos).sum

theorem zipWith_set_sum (f : Script → Nat → Nat) : ∀ (xs : List Script) (ys : List Nat) (n v : Nat),
    n < xs.length → n < ys.length →
    (List.zipWith f xs (ys.set n v)).sum + f (xs.getD n []) (ys.getD n 0) =
      (List.zipWith f xs ys).sum + f (xs.getD n []) v
  | [], _, _, _, h, _ => by simp at h
  | _ :: _, [], _, _, _, h => by simp at h
  | x :: xs, y :: ys, 0, v, _, _ => by simp; omega
  | x :: xs, y :: ys, n + 1, v, h1, h2 => by
    have := zipWith_set_sum f xs ys n v (by simpa using h1) (by simpa using h2)
    simp only [List.set_cons_succ, List.zipWith_cons_cons, List.sum_cons, List.getD_cons_succ]
    omega

/-- The budget, plus one once the pass is no longer quiet, does not rise with a call: the call that ends the quiet
is a script entry, and using it up pays for the one. -/
theorem doCall_budget (scripts : List Script) (acc : PassOut) (n : Nat) (hn : n < scripts.length)
    (hl : acc.st.pos.length = scripts.length) :
    let x := doCall scripts acc n
    x.st.pos.length = scripts.length ∧
    budget scripts x.st.pos + (if x.done && !x.moved then 0 else 1) ≤
      budget scripts acc.st.pos + (if acc.done && !acc.moved then 0 else 1) := by
  have hs : budget scripts (acc.st.pos.set n (acc.st.pos.getD n 0 + 1)) +
        ((scripts.getD n []).length - acc.st.pos.getD n 0) =
      budget scripts acc.st.pos + ((scripts.getD n []).length - (acc.st.pos.getD n 0 + 1)) :=
    zipWith_set_sum _ scripts acc.st.pos n _ hn (hl ▸ hn)
  simp only [doCall_eq, List.length_set]
  refine ⟨hl, ?_⟩
  by_cases hk : acc.st.pos.getD n 0 < (scripts.getD n []).length
  · -- a script entry is used up: the budget falls by one
    split <;> omega
  · -- past the script: a plain `EOF`, which leaves `done` and `moved` as they are
    rw [callAt_exhausted _ _ (Nat.le_of_not_lt hk)]
    simp only [Call.asksAgain, reduceCtorEq, decide_false, Bool.or_self, Bool.not_false, Bool.true_and,
      Bool.or_false]
    omega

theorem pass_budget (scripts : List Script) (st : ST) (hl : st.pos.length = scripts.length) :
    let p := pass scripts st
    p.st.pos.length = scripts.length ∧
    budget scripts p.st.pos + (if p.done && !p.moved then 0 else 1) ≤ budget scripts st.pos :=
  have ⟨_, _, h⟩ := fold_callBlock (P := fun _ x => x.st.pos.length = scripts.length ∧
      budget scripts x.st.pos + (if x.done && !x.moved then 0 else 1) ≤ budget scripts st.pos)
    scripts (List.range scripts.length)
    (fun _ acc n hn _ _ ⟨hla, hb⟩ =>
      have ⟨h1, h2⟩ := doCall_budget scripts acc n (List.mem_range.mp hn) hla
      ⟨h1, Nat.le_trans h2 hb⟩)
    [] ⟨st, true, false, none⟩ ⟨hl, Nat.le_refl _⟩
  h

theorem stLoop_terminates (scripts : List Script) (cancelAt : Option Nat) (fuel : Nat) (st : ST)
    (hl : st.pos.length = scripts.length) (hb : budget scripts st.pos < fuel) :
    (stLoop scripts cancelAt st fuel).1 ≠ .outOfFuel := by
  fun_induction stLoop scripts cancelAt st fuel with
  | case1 => omega
  | case2 | case3 | case4 => simp
  | case5 st _ _ p _ hq ih =>
    obtain ⟨h1, h2⟩ := pass_budget scripts st hl
    rw [if_neg hq] at h2
    exact ih h1 (Nat.lt_of_lt_of_le h2 (Nat.le_of_lt_succ hb))

theorem budget_init (scripts : List Script) : budget scripts (stInit scripts).pos = totalCalls scripts := by
  simp [budget, stInit, totalCalls, List.zipWith_map_right, List.zipWith_self]

end RR.Sched
