import RR.Spec.Blocks
import RR.Proof.Drive
import RR.Proof.GetD

/-!
The gated transducer family (`ZeroCrossing`, `SymbolSync`): whatever the read
windows and the free space of the one or two outputs, the block computes the
per-sample state machine over exactly the consumed prefix of its input.
`gatedRun`, `gatedLoop`, `gatedWork` and `driveGated` have no equation lemmas here: their tests are
plain, and every lemma goes along the definition's own case tree (`fun_induction` / `fun_cases`; the
cases come in the order of the definition's branches).
-/
namespace RR.Blk

theorem gatedRun_append (G : Gated) (a b : List Nat) (st : G.σ) (rows : List (List Nat)) :
    gatedRun G (a ++ b) st rows = (gatedRun G a st rows).bind fun p => gatedRun G b p.1 p.2 := by
  -- along the recursion of `gatedRun`: no input, the step panics, no row, a row
  fun_induction gatedRun G a st rows with
  | case1 => rfl
  | case2 _ _ _ _ hs => simp only [List.cons_append, gatedRun, hs, Option.bind_none]
  | case3 _ _ _ _ _ hs ih => simp only [List.cons_append, gatedRun, hs, ih]
  | case4 _ _ _ _ _ _ hs ih => simp only [List.cons_append, gatedRun, hs, ih]

/-- the rows do not depend on what was collected before -/
theorem gatedRun_shift (G : Gated) (acc : List (List Nat)) (xs : List Nat) (st : G.σ) (rows : List (List Nat)) :
    gatedRun G xs st (acc ++ rows) = (gatedRun G xs st rows).map fun p => (p.1, acc ++ p.2) := by
  fun_induction gatedRun G xs st rows with
  | case1 => rfl
  | case2 _ _ _ _ hs => simp only [gatedRun, hs, Option.map_none]
  | case3 _ _ _ _ _ hs ih => simp only [gatedRun, hs, ih]
  | case4 _ _ _ _ _ _ hs ih => simp only [gatedRun, hs, ← ih, List.append_assoc]

theorem gatedRun_rows_prefix (G : Gated) (xs : List Nat) (st : G.σ) (rows : List (List Nat)) (st' : G.σ)
    (rows' : List (List Nat)) (h : gatedRun G xs st rows = some (st', rows')) : ∃ ext, rows' = rows ++ ext := by
  rw [← List.append_nil rows, gatedRun_shift] at h
  obtain ⟨p, -, hp⟩ := Option.map_eq_some_iff.mp h
  exact ⟨p.2, (Prod.mk.inj hp).2.symm⟩

/-- **The loop of one call** computes the state machine over exactly the `m` samples it consumed,
stays within the window and the output room, and takes at least one sample when there is room and
input. -/
theorem gatedLoop_spec (G : Gated) (maxOut : Nat) (xs : List Nat) (st : G.σ) (n : Nat) (rows : List (List Nat))
    (st' : G.σ) (n' : Nat) (rows' : List (List Nat))
    (h : gatedLoop G maxOut xs st n rows = some (st', n', rows')) (hr : rows.length ≤ maxOut) :
    ∃ m, n' = n + m ∧ m ≤ xs.length ∧ gatedRun G (xs.take m) st rows = some (st', rows') ∧
      rows'.length ≤ maxOut ∧ (rows.length < maxOut → xs ≠ [] → 0 < m) := by
  -- along the recursion of `gatedLoop`: no input, no room, the step panics, no row, a row
  fun_induction gatedLoop G maxOut xs st n rows with
  | case1 => cases h; exact ⟨0, rfl, Nat.le_refl _, rfl, hr, fun _ h => absurd rfl h⟩
  | case2 _ _ _ _ _ hfull =>
    cases h
    exact ⟨0, rfl, Nat.zero_le _, rfl, hr, fun h _ => absurd (beq_iff_eq.mp hfull) (Nat.ne_of_lt h)⟩
  | case3 => cases h
  | case4 _ _ _ _ _ _ _ hs ih =>
    obtain ⟨m, hn', hm, hrun, hrows, _⟩ := ih h hr
    exact ⟨m + 1, by rw [hn', Nat.add_assoc, Nat.add_comm 1], Nat.succ_le_succ hm,
      by simp only [List.take_succ_cons, gatedRun, hs]; exact hrun, hrows, fun _ _ => Nat.succ_pos m⟩
  | case5 _ _ _ _ _ hfull _ _ hs ih =>
    obtain ⟨m, hn', hm, hrun, hrows, _⟩ := ih h
      (by rw [List.length_append]; exact Nat.succ_le_of_lt (Nat.lt_of_le_of_ne hr (by simpa using hfull)))
    exact ⟨m + 1, by rw [hn', Nat.add_assoc, Nat.add_comm 1], Nat.succ_le_succ hm,
      by simp only [List.take_succ_cons, gatedRun, hs]; exact hrun, hrows, fun _ _ => Nat.succ_pos m⟩

theorem cols_append (nout : Nat) (a b : List (List Nat)) : cols nout (a ++ b) = cols nout a ++ cols nout b := by
  simp [cols]

/-- rows of two entries, and the same read entry by entry from the two columns -/
theorem map_pair_eq_range {α} (l : List α) (f g : α → Nat) :
    l.map (fun r => [f r, g r]) =
      (List.range l.length).map fun i => [(l.map f).getD i 0, (l.map g).getD i 0] := by
  induction l with
  | nil => rfl
  | cons a t ih =>
    simp only [List.length_cons, List.range_succ_eq_map, List.map_cons, List.map_map, List.getD_cons_zero,
      Function.comp_def, List.getD_cons_succ, ih]

/-- The rows a call collected, handed on as `nout` columns, read back as rows by the two readers. -/
theorem cols_produced (nout : Nat) (hn : nout = 1 ∨ nout = 2) (rows : List (List Nat)) :
    let prod : List Produced := (List.range nout).map fun j => ⟨rows.map fun r => r.getD j 0, []⟩
    let p0 := (prod.getD 0 ⟨[], []⟩).samples
    let p1 := (prod.getD 1 ⟨[], []⟩).samples
    cols nout rows = (List.range p0.length).map fun i => [p0.getD i 0, p1.getD i 0] := by
  have e1 : List.range 1 = [0] := rfl
  have e2 : List.range 2 = [0, 1] := rfl
  rcases hn with rfl | rfl
  · -- the missing clock column reads as 0
    have h0 : ∀ i, (rows.map fun _ => (0 : Nat)).getD i 0 = 0 := fun i => RR.getD_map (fun _ => 0) rows i []
    have := map_pair_eq_range rows (fun r => r.getD 0 0) (fun _ => 0)
    simp only [h0] at this
    simp only [e1, cols, List.map_cons, List.map_nil, List.getD_cons_zero, List.getD_cons_succ, List.getD_nil,
      List.length_map]
    exact this
  · simp only [e2, cols, List.map_cons, List.map_nil, List.getD_cons_zero, List.getD_cons_succ, List.length_map]
    exact map_pair_eq_range rows _ _

/-- after `c` samples the state is that of the state machine run over them, and the readers hold its rows -/
def GatedInv (G : Gated) (X : List Nat) (st : G.σ) (c : Nat) (rows : List (List Nat)) : Prop :=
  c ≤ X.length ∧ ∃ R, gatedRun G (X.take c) G.init [] = some (st, R) ∧ rows = cols G.nout R

theorem gated_init (G : Gated) (X : List Nat) : GatedInv G X G.init 0 [] := ⟨Nat.zero_le _, [], rfl, rfl⟩

/-- One call that does not panic: the run over `c + n` samples is the run over `c`, continued over the `n` just
consumed (`gatedLoop_spec`), and its new rows are what the readers get. -/
theorem gated_step (G : Gated) (hn : G.nout = 1 ∨ G.nout = 2) (X : List Nat) (st : G.σ) (c : Nat)
    (rows : List (List Nat)) (a f0 f1 : Nat) (h : GatedInv G X st c rows) :
    let w := (X.drop c).take a
    let r := gatedWork G st ⟨[⟨w, [], true⟩], [⟨f0, true⟩, ⟨f1, true⟩]⟩
    let p0 := (r.2.produced.getD 0 ⟨[], []⟩).samples
    let p1 := (r.2.produced.getD 1 ⟨[], []⟩).samples
    r.2.verdict = .panic ∨
      GatedInv G X r.1 (c + r.2.consumed.getD 0 0)
        (rows ++ (List.range p0.length).map fun i => [p0.getD i 0, p1.getD i 0]) := by
  intro w
  -- a waiting call moves nothing
  have idle : GatedInv G X st (c + 0) (rows ++ []) := (List.append_nil rows).symm ▸ h
  fun_cases gatedWork G st ⟨[⟨w, [], true⟩], [⟨f0, true⟩, ⟨f1, true⟩]⟩ with
  | case1 => exact .inr idle
  | case2 => exact .inr idle
  | case3 => exact .inr idle
  | case4 => exact .inl rfl
  | case5 _ _ _ _ maxOut st' n' rows' hl =>
    obtain ⟨hc, R, hrun, hrows⟩ := h
    obtain ⟨m, hn', hmw, hrun1, _, _⟩ := gatedLoop_spec G maxOut w st 0 [] st' n' rows' hl (Nat.zero_le _)
    obtain rfl : n' = m := hn'.trans (Nat.zero_add m)
    have hwl : w.length ≤ X.length - c := window_length_le X c a
    have hrun' : gatedRun G (X.take (c + n')) G.init [] = some (st', R ++ rows') := by
      have := (gatedRun_shift G R _ st []).trans (congrArg _ hrun1)
      rw [List.append_nil] at this
      rw [take_add_window X c a n' hmw, gatedRun_append, hrun]
      exact this
    exact .inr ⟨by show c + n' ≤ X.length; omega, R ++ rows', hrun',
      by rw [hrows, cols_append, cols_produced G.nout hn rows']⟩

theorem gated_drive (G : Gated) (hn : G.nout = 1 ∨ G.nout = 2) (X : List Nat) (sched : List (Nat × Nat × Nat)) :
    ∀ st c rows, GatedInv G X st c rows → ∀ st' c' rows', driveGated G X st c rows sched = some (st', c', rows') →
      GatedInv G X st' c' rows' := by
  intro st c rows
  fun_induction driveGated G X st c rows sched with
  | case1 => intro h _ _ _ e; cases e; exact h
  | case2 => intro _ _ _ _ e; cases e
  | case3 st c rows a f0 f1 _ w r hv p0 p1 new ih =>
    intro h
    exact ih ((gated_step G hn X st c rows a f0 f1 h).resolve_left fun hp => hv (beq_iff_eq.mpr hp))

/-- what one schedule delivers is a prefix of what any schedule that consumed more delivers -/
theorem gatedRun_take_prefix (G : Gated) (X : List Nat) (c1 c2 : Nat) (h : c1 ≤ c2) (st1 st2 : G.σ)
    (R1 R2 : List (List Nat)) (h1 : gatedRun G (X.take c1) G.init [] = some (st1, R1))
    (h2 : gatedRun G (X.take c2) G.init [] = some (st2, R2)) : ∃ ext, R2 = R1 ++ ext := by
  rw [← Nat.add_sub_cancel' h, List.take_add, gatedRun_append, h1] at h2
  exact gatedRun_rows_prefix G _ st1 R1 st2 R2 h2

/-- a step function without panics gives a loop, a `work()` and a drive without panics -/
theorem gatedLoop_no_panic (G : Gated) (ht : ∀ st s, G.step st s ≠ none) (maxOut : Nat) (xs : List Nat) (st : G.σ) (n : Nat)
    (rows : List (List Nat)) : gatedLoop G maxOut xs st n rows ≠ none := by
  fun_induction gatedLoop G maxOut xs st n rows with
  | case1 => nofun
  | case2 => nofun
  | case3 => exact absurd ‹G.step _ _ = none› (ht _ _)
  | case4 => assumption
  | case5 => assumption

theorem gatedWork_no_panic (G : Gated) (ht : ∀ st s, G.step st s ≠ none) (st : G.σ) (v : View) :
    (gatedWork G st v).2.verdict ≠ .panic := by
  fun_cases gatedWork G st v with
  | case1 => nofun
  | case2 => nofun
  | case3 => nofun
  | case4 => exact absurd ‹gatedLoop G _ _ st 0 [] = none› (gatedLoop_no_panic G ht _ _ _ _ _)
  | case5 => nofun

theorem driveGated_no_panic (G : Gated) (ht : ∀ st s, G.step st s ≠ none) (X : List Nat) (sched : List (Nat × Nat × Nat))
    (st : G.σ) (c : Nat) (rows : List (List Nat)) : driveGated G X st c rows sched ≠ none := by
  fun_induction driveGated G X st c rows sched with
  | case1 => nofun
  | case2 => exact absurd (beq_iff_eq.mp ‹(_ == Verdict.panic) = true›) (gatedWork_no_panic G ht _ _)
  | case3 => assumption

/-- a toy member of the family for the non-vacuity examples: emits every second sample with the state -/
def toyGated : Gated :=
  { σ := Nat, init := 0, step := fun st s => some (st + 1, if st % 2 = 1 then some [s, st] else none), nout := 2 }
end RR.Blk
