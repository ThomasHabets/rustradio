import RR.Spec.Blocks
import RR.Proof.Drive
import RR.Proof.GetD

/-!
Skip, RtlSdrDecode and Delay for every schedule. For each block `x`: `xWork_one` is `work()` on a one-in/one-out
view as an `if` chain (where the model's `work` is unfolded; `xWork_no_panic`, about any view, does it once more);
`XInv` ties state and cumulative output to the number `c` of samples consumed — Skip: `(X.take c).drop k`,
RtlSdrDecode: `rtlSpec (X.take c)`, Delay: `z ≤ d` zeros, then `X.take c` —, `x_init` is its initial case and `x_step`
shows one call keeps it; `x_drive` is `drive1_inv` of that. For Skip and Delay the step is a `Dsp.TagStep`: it also says
which tags the call hands on, and `x_driveT` is the same step under `driveT` (`driveT_tags`).
-/
namespace RR.Blk

theorem skipWork_one (st : Nat) (w : List Nat) (ts : List Tag) (al : Bool) (f : Nat) (al' : Bool) :
    skipWork st ⟨[⟨w, ts, al⟩], [⟨f, al'⟩]⟩ =
      if w = [] then (st, ⟨[0], [⟨[], []⟩], .waitIn 0 1⟩)
      else if f = 0 then (st, ⟨[0], [⟨[], []⟩], .waitOut 0 1⟩)
      else if st = 0 then
        (0, ⟨[min w.length f],
             [⟨w.take (min w.length f), ts.filter fun t => decide (t.pos < min w.length f)⟩], .again⟩)
      else (st - min st w.length, ⟨[min st w.length], [⟨[], []⟩], .again⟩) := by
  simp only [skipWork, in0_cons, out0_cons, noOut_one, List.isEmpty_iff, beq_iff_eq]
  rfl

theorem skipWork_no_panic (st : Nat) (v : View) : (skipWork st v).2.verdict ≠ .panic := by
  simp only [skipWork]
  split
  · simp
  split
  · simp
  split <;> simp

def SkipInv (k : Nat) (X : List Nat) (st c : Nat) (out : List Nat) : Prop :=
  st = k - c ∧ out = (X.take c).drop k ∧ c ≤ X.length

theorem skip_init (k : Nat) (X : List Nat) : SkipInv k X k 0 [] := ⟨rfl, by simp, Nat.zero_le _⟩

/-- One call of Skip, any tags in its view (`L = k`, `G = (· - k)`): no tag while skipping, afterwards those of the
copied samples at their index. On a stream without tags the first component alone is used (`drive1_tagStep`). -/
theorem skip_step (k : Nat) (X : List Nat) (st c : Nat) (out : List Nat) (a f : Nat) (ts : List Tag)
    (h : SkipInv k X st c out) :
    let w := (X.drop c).take a
    Dsp.TagStep (SkipInv k X) k (· - k) c out ts w.length (skipWork st ⟨[⟨w, ts, true⟩], [⟨f, true⟩]⟩) := by
  intro w
  have hwl : w.length ≤ X.length - c := window_length_le X c a
  rw [skipWork_one]
  by_cases hw : w = []
  · rw [if_pos hw]; exact .idle h ..
  by_cases hf : f = 0
  · rw [if_neg hw, if_pos hf]; exact .idle h ..
  rw [if_neg hw, if_neg hf]
  obtain ⟨rfl, rfl, hc⟩ := h
  unfold Dsp.TagStep
  by_cases hkc : k - c = 0
  · -- copying: the skip count is used up, `k ≤ c`; the tags of the copied samples keep their index
    rw [if_pos hkc]
    intro n p
    have hkc : k ≤ c := Nat.le_of_sub_eq_zero hkc
    have hn : n ≤ w.length := Nat.min_le_left _ _
    refine ⟨⟨by omega, ?_, by omega⟩, hn, .inr ⟨hkc, id, (Dsp.map_mp_id _).symm, fun i _ => ?_⟩⟩
    · exact (take_add_window X c a n hn ▸
        List.drop_append_of_le_length (by rw [List.length_take_of_le hc]; exact hkc)).symm
    · rw [List.length_drop, List.length_take_of_le hc]; simp only [id]; omega
  · -- dropping: `c + n ≤ k`, nothing is out yet and no tag is handed on
    rw [if_neg hkc]
    intro n p
    have hn : n ≤ k - c := Nat.min_le_left _ _
    have hnw : n ≤ w.length := Nat.min_le_right _ _
    refine ⟨⟨?_, ?_, by omega⟩, hnw, .inl ⟨by omega, rfl⟩⟩
    · exact (Nat.sub_add_eq k c n).symm
    · show (X.take c).drop k ++ [] = (X.take (c + n)).drop k
      rw [List.drop_eq_nil_of_le (Nat.le_trans (List.length_take_le _ _) (by omega)),
        List.drop_eq_nil_of_le (Nat.le_trans (List.length_take_le _ _) (by omega))]; rfl

theorem skip_drive (k : Nat) (X : List Nat) (sched : List (Nat × Nat)) :
    ∀ st c out, SkipInv k X st c out →
      let r := drive1 (skipBlock k) X st c out sched
      SkipInv k X r.1 r.2.1 r.2.2 :=
  Dsp.drive1_tagStep (skipBlock k) X k (· - k) (SkipInv k X) (skip_step k X) sched

theorem skip_driveT (k : Nat) (X : List Nat) (T : List Tag) (sched : List (Nat × Nat)) :
    ∀ st c out ot, SkipInv k X st c out → ot.Perm ((Dsp.rng T k c).map (Dsp.mp (· - k))) →
      let r := Dsp.driveT (skipBlock k) X T st c out ot sched
      SkipInv k X r.1 r.2.1 r.2.2.1 ∧ r.2.2.2.Perm ((Dsp.rng T k r.2.1).map (Dsp.mp (· - k))) :=
  Dsp.driveT_tags (skipBlock k) X T k (· - k) (SkipInv k X) (skip_step k X) sched

theorem pairs_append_even : (l1 l2 : List Nat) → l1.length % 2 = 0 →
    pairs (l1 ++ l2) = pairs l1 ++ pairs l2
  | [], _, _ => rfl
  | [_], _, h => nomatch h
  | _ :: _ :: t, l2, h => by
    rw [List.length_cons, List.length_cons, Nat.add_assoc, Nat.add_mod_right] at h
    exact congrArg _ (pairs_append_even t l2 h)

theorem pairs_length : (l : List Nat) → (pairs l).length = l.length / 2
  | [] => by simp [pairs]
  | [_] => by simp [pairs]
  | a :: b :: t => by
    have := pairs_length t
    simp only [pairs, List.length_cons, this]; omega

theorem pairs_take : (l : List Nat) → (m : Nat) → pairs (l.take (2 * m)) = (pairs l).take m
  | _, 0 => rfl
  | [], _ + 1 => rfl
  | [_], _ + 1 => rfl
  | _ :: _ :: t, m + 1 => congrArg _ (pairs_take t m)

theorem rtlSpec_append_even (l1 l2 : List Nat) (h : l1.length % 2 = 0) :
    rtlSpec (l1 ++ l2) = rtlSpec l1 ++ rtlSpec l2 := by
  simp [rtlSpec, pairs_append_even l1 l2 h]

theorem rtlSpec_take (l : List Nat) (m : Nat) : rtlSpec (l.take (2 * m)) = (rtlSpec l).take m := by
  simp only [rtlSpec, pairs_take, List.map_take]

/-- `m = min ⌊|w|/2⌋ f` byte pairs are converted -/
theorem rtlWork_one (st : Unit) (w : List Nat) (ts : List Tag) (al : Bool) (f : Nat) (al' : Bool) :
    rtlWork st ⟨[⟨w, ts, al⟩], [⟨f, al'⟩]⟩ =
      if w.length < 2 then (st, ⟨[0], [⟨[], []⟩], .waitIn 0 2⟩)
      else if f = 0 then (st, ⟨[0], [⟨[], []⟩], .waitOut 0 1⟩)
      else (st, ⟨[2 * min (w.length / 2) f], [⟨(rtlSpec w).take (min (w.length / 2) f), []⟩], .again⟩) := by
  have h0 : w.length - w.length % 2 = 2 * (w.length / 2) := by omega
  have h1 : (2 * (w.length / 2) = 0) ↔ w.length < 2 := by omega
  have h2 : min (2 * (w.length / 2)) (f * 2) = 2 * min (w.length / 2) f := by
    rw [Nat.mul_comm f 2, Nat.mul_min_mul_left]
  simp only [rtlWork, in0_cons, out0_cons, noOut_one, beq_iff_eq, h0, h1, h2,
    Nat.mul_div_cancel_left _ (by decide : 0 < 2)]
  rfl

theorem rtlWork_no_panic (st : Unit) (v : View) : (rtlWork st v).2.verdict ≠ .panic := by
  simp only [rtlWork]
  split
  · simp
  split <;> simp

def RtlInv (X : List Nat) (_ : Unit) (c : Nat) (out : List Nat) : Prop := out = rtlSpec (X.take c) ∧ c % 2 = 0

theorem rtl_init (X : List Nat) : RtlInv X () 0 [] := ⟨rfl, rfl⟩

theorem rtl_step (X : List Nat) (st : Unit) (c : Nat) (out : List Nat) (a f : Nat) (h : RtlInv X st c out) :
    let w := (X.drop c).take a
    let r := rtlWork st ⟨[⟨w, [], true⟩], [⟨f, true⟩]⟩
    RtlInv X r.1 (c + r.2.consumed.getD 0 0) (out ++ (r.2.produced.getD 0 ⟨[], []⟩).samples) := by
  intro w r
  obtain ⟨rfl, hc⟩ := h
  simp only [r, rtlWork_one]
  split
  · exact ⟨List.append_nil _, hc⟩
  split
  · exact ⟨List.append_nil _, hc⟩
  · simp only [List.getD_cons_zero]
    have hm : 2 * min (w.length / 2) f ≤ w.length :=
      Nat.le_trans (Nat.mul_le_mul_left 2 (Nat.min_le_left _ _)) (Nat.mul_div_le _ _)
    have hcX : c ≤ X.length := by have : w.length ≤ X.length - c := window_length_le X c a; omega
    refine ⟨?_, by rw [Nat.add_mul_mod_self_left]; exact hc⟩
    rw [take_add_window X c a _ hm, rtlSpec_append_even _ _ (by rw [List.length_take_of_le hcX]; exact hc),
      rtlSpec_take]

theorem rtl_drive (X : List Nat) (sched : List (Nat × Nat)) :
    ∀ st c out, RtlInv X st c out →
      let r := drive1 rtlBlock X st c out sched
      RtlInv X r.1 r.2.1 r.2.2 :=
  drive1_inv rtlBlock X (RtlInv X) (rtl_step X) sched

/-- the zeros of a call, as `Delay::work` computes them -/
theorem delay_zeros (cd f : Nat) : (if cd > 0 then min cd f else 0) = min cd f := by
  split
  · rfl
  · next h => rw [Nat.eq_zero_of_not_pos h, Nat.zero_min]

/-- With room, a call emits up to `current_delay` zeros and then, after the `ns` samples a lowered delay (`set_delay`)
still has to drop, what fits in the room that is left; an empty window is the case `ns = n = 0`, told apart only by
the verdict. -/
theorem delayWork_one (st : DelaySt) (w : List Nat) (ts : List Tag) (al : Bool) (f : Nat) (al' : Bool) :
    delayWork st ⟨[⟨w, ts, al⟩], [⟨f, al'⟩]⟩ =
      if f = 0 then (st, ⟨[0], [⟨[], []⟩], .waitOut 0 1⟩)
      else
        let ns := min w.length st.skip
        let n := min (w.length - ns) (f - st.currentDelay)
        (⟨st.currentDelay - f, st.skip - ns⟩,
         ⟨[ns + n],
          [⟨List.replicate (min st.currentDelay f) 0 ++ (w.drop ns).take n,
            (ts.filter fun t => decide (ns ≤ t.pos ∧ t.pos < ns + n)).map
              fun t => { t with pos := t.pos - ns + min st.currentDelay f }⟩],
          if w = [] then (if f < st.currentDelay then .waitOut 0 1 else .waitIn 0 1) else .again⟩) := by
  have h3 : (min w.length st.skip = 0 ∧ w = []) ↔ w = [] := ⟨fun h => h.2, fun h => ⟨by rw [h]; exact Nat.zero_min _, h⟩⟩
  simp only [delayWork, in0_cons, out0_cons, noOut_one, delay_zeros, sub_min_self, sub_min_self', h3, Bool.and_eq_true,
    beq_iff_eq, List.length_eq_zero_iff, List.length_drop, Nat.sub_pos_iff_lt]
  split
  · rfl
  split
  · next hw => subst hw; simp
  · rfl

/-- … with nothing to drop, which is every state that no `set_delay` has touched -/
theorem delayWork_one_noskip (cd : Nat) (w : List Nat) (ts : List Tag) (al : Bool) (f : Nat) (al' : Bool) :
    delayWork ⟨cd, 0⟩ ⟨[⟨w, ts, al⟩], [⟨f, al'⟩]⟩ =
      if f = 0 then (⟨cd, 0⟩, ⟨[0], [⟨[], []⟩], .waitOut 0 1⟩)
      else
        (⟨cd - f, 0⟩,
         ⟨[min w.length (f - cd)],
          [⟨List.replicate (min cd f) 0 ++ w.take (min w.length (f - cd)),
            (ts.filter fun t => decide (t.pos < min w.length (f - cd))).map
              fun t => { t with pos := t.pos + min cd f }⟩],
          if w = [] then (if f < cd then .waitOut 0 1 else .waitIn 0 1) else .again⟩) := by
  simp only [delayWork_one, Nat.min_zero, List.drop_zero, Nat.sub_zero, Nat.zero_add, Nat.zero_le, true_and]

theorem delayWork_no_panic (st : DelaySt) (v : View) : (delayWork st v).2.verdict ≠ .panic := by
  simp only [delayWork]
  split
  · simp
  split
  · dsimp only; split <;> split <;> simp
  · simp

/-- Delay's stream invariant after `c` samples: `z ≤ d` zeros are out, all of them before the first sample -/
def DelayInv (d : Nat) (X : List Nat) (st : DelaySt) (c : Nat) (out : List Nat) : Prop :=
  ∃ z, z ≤ d ∧ (0 < c → z = d) ∧ st = ⟨d - z, 0⟩ ∧ out = List.replicate z 0 ++ X.take c ∧ c ≤ X.length

theorem delay_init (d : Nat) (X : List Nat) : DelayInv d X ⟨d, 0⟩ 0 [] :=
  ⟨0, Nat.zero_le _, nofun, rfl, rfl, Nat.zero_le _⟩

theorem DelayInv.out {d X st c out} (h : DelayInv d X st c out) :
    ∃ z, z ≤ d ∧ (0 < c → z = d) ∧ out = List.replicate z 0 ++ X.take c :=
  let ⟨z, h1, h2, _, h4, _⟩ := h
  ⟨z, h1, h2, h4⟩

/-- One call of Delay, any tags in its view (`L = 0`, `G = (· + d)`): the tags of the copied samples, moved by the
zeros emitted in the same call. On a stream without tags the first component alone is used (`drive1_tagStep`). -/
theorem delay_step (d : Nat) (X : List Nat) (st : DelaySt) (c : Nat) (out : List Nat) (a f : Nat) (ts : List Tag)
    (h : DelayInv d X st c out) :
    let w := (X.drop c).take a
    Dsp.TagStep (DelayInv d X) 0 (· + d) c out ts w.length (delayWork st ⟨[⟨w, ts, true⟩], [⟨f, true⟩]⟩) := by
  intro w
  have hidle := Dsp.TagStep.idle h 0 (· + d) ts w.length
  obtain ⟨z, hz, hcz, rfl, rfl, hc⟩ := h
  -- `e` zeros are still owed
  obtain ⟨e, rfl⟩ : ∃ e, d = z + e := ⟨d - z, (Nat.add_sub_cancel' hz).symm⟩
  have hwl : w.length ≤ X.length - c := window_length_le X c a
  -- they come out before the first sample: either nothing is consumed yet or none are owed
  have hc0 : c = 0 ∨ e = 0 := by
    rcases Nat.eq_zero_or_pos c with h | h
    · exact .inl h
    · exact .inr (Nat.add_left_cancel (hcz h).symm)
  have hzc : ∀ t : List Nat, (List.replicate z 0 ++ X.take c) ++ (List.replicate (min e f) 0 ++ t) =
      List.replicate (z + min e f) 0 ++ (X.take c ++ t) := by
    intro t
    rcases hc0 with rfl | rfl
    · simp [← List.replicate_append_replicate]
    · simp
  rw [delayWork_one_noskip]
  by_cases hf : f = 0
  · rw [if_pos hf]; exact hidle _
  rw [if_neg hf, Nat.add_sub_cancel_left]
  unfold Dsp.TagStep
  intro n p
  have hn : n ≤ w.length := Nat.min_le_left _ _
  -- a sample is copied only when the owed zeros all fit in this call: then `min e f = e`
  have hfit : 0 < n → min e f = e := fun h => Nat.min_eq_left (by have : n ≤ f - e := Nat.min_le_right _ _; omega)
  refine ⟨⟨z + min e f, Nat.add_le_add_left (Nat.min_le_left _ _) _, fun h => ?_, ?_, ?_, by omega⟩, hn,
    .inr ⟨Nat.zero_le _, (· + min e f), rfl, fun i hi => ?_⟩⟩
  · rcases hc0 with rfl | rfl
    · rw [hfit (by omega)]
    · rfl
  · rw [Nat.add_sub_add_left, sub_min_self]
  · exact (hzc _).trans (congrArg _ (take_add_window X c a n hn).symm)
  · show (List.replicate z 0 ++ X.take c).length + (i + min e f) = c + i + (z + e)
    rw [List.length_append, List.length_replicate, List.length_take_of_le hc, hfit (by omega)]; omega

theorem delay_drive (d : Nat) (X : List Nat) (sched : List (Nat × Nat)) :
    ∀ st c out, DelayInv d X st c out →
      let r := drive1 (delayBlock d) X st c out sched
      DelayInv d X r.1 r.2.1 r.2.2 :=
  Dsp.drive1_tagStep (delayBlock d) X 0 (· + d) (DelayInv d X) (delay_step d X) sched

theorem delay_driveT (d : Nat) (X : List Nat) (T : List Tag) (sched : List (Nat × Nat)) :
    ∀ st c out ot, DelayInv d X st c out → ot.Perm ((Dsp.rng T 0 c).map (Dsp.mp (· + d))) →
      let r := Dsp.driveT (delayBlock d) X T st c out ot sched
      DelayInv d X r.1 r.2.1 r.2.2.1 ∧ r.2.2.2.Perm ((Dsp.rng T 0 r.2.1).map (Dsp.mp (· + d))) :=
  Dsp.driveT_tags (delayBlock d) X T 0 (· + d) (DelayInv d X) (delay_step d X) sched

end RR.Blk
