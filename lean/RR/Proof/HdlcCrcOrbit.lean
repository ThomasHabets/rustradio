import RR.Proof.HdlcCrcDetect
import RR.Proof.GetD

/-!
The bit-serial CRC step has an orbit of length exactly 32767 through the
single-bit states (`x` has order 32767 modulo the generator). A flipped bit
changes the CRC by a point of that orbit determined by the bit's distance from
the end of the message (`crcBitwise_flipBit`), so two flipped bits less than
32767 positions apart never cancel.

Hence the single-bit repair (`set_fix_bits(true)`): when exactly one data bit
was flipped, `find_right_crc` finds exactly that bit — no other single flip
makes the checksum verify, because that would be an undetected two-bit error —
and returns the original data.
-/
namespace RR.Hdlc
open RR.HdlcSpec

theorem flipBit_length (data : List Nat) (i j : Nat) : (flipBit data i j).length = data.length := by
  simp [flipBit]

theorem flipBit_append_cons (pre rest : List Nat) (b j : Nat) :
    flipBit (pre ++ b :: rest) pre.length j = pre ++ (b ^^^ 2 ^ j) :: rest := by
  simp [flipBit, Nat.one_shiftLeft]

theorem flipBit_flipBit (data : List Nat) (i j : Nat) : flipBit (flipBit data i j) i j = data := by
  by_cases hi : i < data.length
  · simp [flipBit, hi, Nat.xor_assoc]
  · simp [flipBit, List.set_eq_of_length_le (Nat.le_of_not_lt hi)]

theorem flipBit_bytes (data : List Nat) (i j : Nat) (hd : ∀ x ∈ data, x < 256) (hj : j < 8) :
    ∀ x ∈ flipBit data i j, x < 256 := by
  intro x hx
  unfold flipBit at hx
  rcases List.mem_or_eq_of_mem_set hx with h | h
  · exact hd x h
  · rw [h, Nat.one_shiftLeft]
    exact Nat.xor_lt_two_pow (n := 8) (getD_of_forall_mem hd (by decide) i) (Nat.pow_lt_pow_right (by omega) hj)

/-- A decision procedure for the kernel: `s0` is met at step `k + 1` from `s` and not before. -/
def returnsAfter (s0 : Nat) : Nat → Nat → Bool
  | 0, s => crcStep s == s0
  | k + 1, s => if crcStep s = s0 then false else returnsAfter s0 k (crcStep s)

theorem returnsAfter_spec (s0 k s : Nat) :
    returnsAfter s0 k s = true → crcIter (k + 1) s = s0 ∧ ∀ j < k, crcIter (j + 1) s ≠ s0 := by
  fun_induction returnsAfter s0 k s with
  | case1 s => exact fun h => ⟨by simpa [crcIter] using h, fun j hj => by omega⟩
  | case2 k s heq => exact fun h => by cases h
  | case3 k s hne ih =>
    intro h
    obtain ⟨e, hj⟩ := ih h
    exact ⟨e, fun j hjk => by cases j with | zero => exact hne | succ j => exact hj j (by omega)⟩

/-- the kernel walks the whole orbit once -/
theorem orbit_walk : returnsAfter 0x8000 32766 0x8000 = true := by decide +kernel

theorem orbit_period : crcIter 32767 0x8000 = 0x8000 ∧ ∀ j < 32766, crcIter (j + 1) 0x8000 ≠ 0x8000 :=
  returnsAfter_spec _ _ _ orbit_walk

/-- Points of the orbit less than a period apart are distinct (the step is injective, so a
coincidence could be shifted back to the start of the orbit). -/
theorem orbit_inj (a b : Nat) (h1 : a < b + 32767) (h2 : b < a + 32767)
    (h : crcIter a 0x8000 = crcIter b 0x8000) : a = b := by
  have key : ∀ a b, a ≤ b → b < a + 32767 → crcIter a 0x8000 = crcIter b 0x8000 → a = b := by
    intro a b hab hd h
    obtain ⟨d, rfl⟩ := Nat.exists_eq_add_of_le' hab
    rw [crcIter_add] at h
    have hret : 0x8000 = crcIter d 0x8000 := crcIter_inj a _ _ (by decide) (crcIter_lt _ _ (by decide)) h
    cases d with
    | zero => exact (Nat.zero_add a).symm
    | succ d => exact absurd hret.symm (orbit_period.2 d (by omega))
  rcases Nat.le_total a b with hab | hab
  · exact key a b hab h2 h
  · exact (key b a hab h1 h.symm).symm

theorem single_bit_on_orbit : ∀ j < 16, 2 ^ j = crcIter (15 - j) 0x8000 := by decide +kernel

/-- The syndrome of a flipped bit is the point of the orbit at the bit's distance from the end of
the message (in transmission order), whatever the message. -/
theorem crcBitwise_flipBit (data : List Nat) (i j : Nat) (hi : i < data.length) (hj : j < 16) :
    crcBitwise (flipBit data i j) = crcBitwise data ^^^ crcIter (8 * (data.length - i) + (15 - j)) 0x8000 := by
  rw [flipBit, Nat.one_shiftLeft, crcBitwise_set_xor _ _ _ hi, single_bit_on_orbit j hj, ← crcIter_add, Nat.add_comm]

/-- `8 * i + j` is the place of bit `j` of byte `i` in transmission order: the two flipped bits are
less than a period apart. -/
theorem crc_two_flips (data : List Nat) (i j i' j' : Nat) (hi : i < data.length) (hi' : i' < data.length)
    (hj : j < 8) (hj' : j' < 8) (hne : 8 * i + j ≠ 8 * i' + j')
    (hd : 8 * i + j < 8 * i' + j' + 32767) (hd' : 8 * i' + j' < 8 * i + j + 32767) :
    crcBitwise (flipBit (flipBit data i j) i' j') ≠ crcBitwise data := by
  rw [crcBitwise_flipBit _ i' j' (by rwa [flipBit_length]) (by omega), crcBitwise_flipBit data i j hi (by omega),
    flipBit_length, Nat.xor_assoc, Ne, xor_eq_self_iff, xor_eq_zero_iff]
  intro h
  have := orbit_inj _ _ (by omega) (by omega) h
  omega

/-- One flipped data bit never changes the CRC by exactly one bit of the 16-bit field: the single-bit
states are the first 16 points of the orbit, the syndrome lies beyond them. -/
theorem crc_flip_and_fcs_bit (data : List Nat) (i j k : Nat) (hi : i < data.length) (hj : j < 8) (hk : k < 16)
    (hlen : data.length - i < 4094) :
    crcBitwise (flipBit data i j) ≠ crcBitwise data ^^^ 2 ^ k := by
  rw [crcBitwise_flipBit data i j hi (by omega), single_bit_on_orbit k hk]
  intro h
  have := orbit_inj _ _ (by omega) (by omega) ((xor_right_inj _ _ _).mp h)
  omega

theorem findFlip_repairs (data : List Nat) (i j : Nat) (hd : ∀ x ∈ data, x < 256) (hi : i < data.length)
    (hj : j < 8) (hlen : data.length < 4095) :
    findFlip (flipBit data i j) (crcBitwise data) = some data := by
  unfold findFlip
  rw [flipBit_length]
  cases hres : List.findSome? _ _ with
  | none =>
    -- flipping the corrupted bit back verifies, so the search cannot fail
    have := List.findSome?_eq_none_iff.mp hres (i, j) (by simp [hi, hj])
    simp [flipBit_flipBit, calcCrc_eq_bitwise _ hd] at this
  | some r =>
    obtain ⟨⟨i', j'⟩, ha, hfa⟩ := List.exists_of_findSome?_eq_some hres
    obtain ⟨hi', hj'⟩ : i' < data.length ∧ j' < 8 := by simpa using ha
    simp only [calcCrc_eq_bitwise _ (flipBit_bytes _ _ _ (flipBit_bytes _ i j hd hj) hj'), beq_iff_eq,
      Option.ite_none_right_eq_some, Option.some.injEq] at hfa
    obtain ⟨hcrc, rfl⟩ := hfa
    -- any other flip that verified would be a two-bit error the CRC missed
    by_cases hsame : 8 * i + j = 8 * i' + j'
    · obtain ⟨rfl, rfl⟩ : i = i' ∧ j = j' := by omega
      rw [flipBit_flipBit]
    · exact absurd hcrc (crc_two_flips data i j i' j' hi hi' hj hj' hsame (by omega) (by omega))

theorem findRightCrc_repairs (data : List Nat) (i j : Nat) (hd : ∀ x ∈ data, x < 256) (hi : i < data.length)
    (hj : j < 8) (hlen : data.length < 4095) :
    findRightCrc (flipBit data i j) (crcBitwise data) true = (some data, crcBitwise data) := by
  simp [findRightCrc, calcCrc_eq_bitwise _ (flipBit_bytes _ i j hd hj), (crc_flip data i j hi hj).symm,
    findFlip_repairs data i j hd hi hj hlen, calcCrc_eq_bitwise _ hd]

end RR.Hdlc
