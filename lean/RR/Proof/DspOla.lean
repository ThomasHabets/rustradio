import RR.Proof.DspAlg
import RR.Proof.DspFftLoop

/-!
Overlap-add (`FftFilter`) over a commutative ring: batches of `S = N - L` samples, zero padded to the FFT size
`N = calc_fft_size(L)`, cyclically convolved with the `L` taps, the last `L` outputs carried into the next batch.
A padded batch wraps only into its zeros (`cyclic_nowrap`), so a batch is the linear convolution of its own samples
(`fftBatch_conv`); the carried tail is the convolution of the prefix consumed so far, read beyond its end (`ola_step`);
hence the concatenated output is the linear convolution of the whole input with zero pre-history (`ola_eq_conv`, and
`fftInv_conv` for the block under any schedule).
-/
namespace RR.Dsp
open Finset
variable {R : Type} [CommRing R]

theorem cyclic_getD (N : ℕ) (taps buf : List R) (n : ℕ) (h : n < N) :
    (cyclic (ringOps R) N taps buf).getD n 0 =
      ∑ k ∈ range N, buf.getD ((n + N - k) % N) 0 * taps.getD k 0 := by
  unfold cyclic
  simp only [ringOps]
  rw [getD_map_range _ _ h, foldl_add, zero_add, sum_map_range]

/-- A buffer that is zero from slot `S = N - L` on does not wrap: its cyclic convolution is its linear one. -/
theorem cyclic_nowrap (taps buf : List R) (N S n : ℕ) (hN : N = S + taps.length) (hn : n < N)
    (hbuf : ∀ j, S ≤ j → buf.getD j 0 = 0) :
    (cyclic (ringOps R) N taps buf).getD n 0 = convAt taps buf n := by
  rw [cyclic_getD N taps buf n hn, hN, Nat.add_comm S, Finset.sum_range_add, add_eq_left.mpr
    (Finset.sum_eq_zero fun x _ => by rw [getD_of_le (l := taps) _ (Nat.le_add_right _ x), mul_zero])]
  refine sum_range_congr fun k hk => ?_
  -- `k ≤ n`: slot `n - k`, as in the linear convolution; `n < k`: slot `n + N - k ≥ S`, where the buffer is zero
  split
  · rw [show n + (taps.length + S) - k = taps.length + S + (n - k) by omega, Nat.add_mod_left,
      Nat.mod_eq_of_lt (by omega), mul_comm]
  · rw [Nat.mod_eq_of_lt (by omega), hbuf _ (by omega), zero_mul]

theorem convAt_take_of_lt (taps X : List R) {q m : ℕ} (h : m < q) : convAt taps (X.take q) m = convAt taps X m :=
  sum_range_congr fun k _ => by rw [getD_take, if_pos (show m - k < q by omega)]

theorem convAt_take_of_ge (taps X : List R) {q m : ℕ} (h : q + taps.length ≤ m + 1) : convAt taps (X.take q) m = 0 :=
  Finset.sum_eq_zero fun k hk => by
    have := Finset.mem_range.mp hk
    rw [getD_take, if_neg (show ¬ m - k < q by omega), mul_zero, ite_self]

/-- What the first `p + S` samples contribute at `p + n`: what the first `p` do, and the next `S` on their own. -/
theorem convAt_take_add (taps X : List R) (p S n : ℕ) :
    convAt taps (X.take (p + S)) (p + n) = convAt taps (X.take p) (p + n) + convAt taps ((X.drop p).take S) n := by
  unfold convAt
  rw [← Finset.sum_add_distrib]
  refine sum_range_congr fun k _ => ?_
  simp only [getD_take, getD_drop]
  by_cases hkn : k ≤ n
  · rw [if_pos hkn, if_pos (show k ≤ p + n by omega), show p + n - k = p + (n - k) by omega,
      if_neg (show ¬ p + (n - k) < p by omega), mul_zero, ite_self, zero_add]
    simp only [Nat.add_lt_add_iff_left]
  · rw [if_neg hkn, add_zero]
    by_cases hk : k ≤ p + n
    · rw [if_pos hk, if_pos hk, if_pos (show p + n - k < p + S by omega), if_pos (show p + n - k < p by omega)]
    · rw [if_neg hk, if_neg hk]

/-- One batch, entry by entry: the linear convolution of the batch on its own, the carried tail added to its
first `L` entries, its last `L` entries carried on. -/
theorem fftBatch_conv (taps buf tail : List R) (S : ℕ) (hS : calcFftSize taps.length - taps.length = S)
    (hbuf : buf.length ≤ S) :
    fftBatch (ringOps R) taps buf tail =
      ((List.range S).map fun i => convAt taps buf i + if i < taps.length then tail.getD i 0 else 0,
       (List.range taps.length).map fun i => convAt taps buf (S + i)) := by
  subst hS
  have hge := calcFftSize_ge taps.length
  have hc : ∀ n, n < calcFftSize taps.length →
      (cyclic (ringOps R) (calcFftSize taps.length) taps
        (buf ++ List.replicate (calcFftSize taps.length - buf.length) 0)).getD n 0 = convAt taps buf n := by
    intro n hn
    rw [cyclic_nowrap taps _ _ (calcFftSize taps.length - taps.length) n (by omega) hn fun j hj => by
      rw [getD_append_replicate, getD_of_le _ (by omega)]]
    simp only [convAt, getD_append_replicate]
  simp only [fftBatch, ringOps, Prod.mk.injEq] at hc ⊢
  constructor
  · rw [← List.map_take, List.take_range, Nat.min_eq_left (Nat.sub_le _ _)]
    refine List.map_congr_left fun i hi => ?_
    rw [hc i (by have := List.mem_range.mp hi; omega)]
    split <;> simp
  · refine List.map_congr_left fun i hi => ?_
    have := List.mem_range.mp hi
    rw [getD_map_range _ _ (by omega), if_neg (by omega), hc _ (by omega)]

/-- The carried tail before batch `b` is the convolution of the `b·S` samples taken so far, beyond their end. -/
theorem ola_step (taps X tail : List R) (S b : ℕ) (hS : calcFftSize taps.length - taps.length = S)
    (htail : ∀ i, i < taps.length → tail.getD i 0 = convAt taps (X.take (b * S)) (b * S + i)) :
    let r := fftBatch (ringOps R) taps ((X.drop (b * S)).take S) tail
    r.1 = (List.range S).map (fun i => convAt taps X (b * S + i)) ∧
    ∀ i, i < taps.length → r.2.getD i 0 = convAt taps (X.take ((b + 1) * S)) ((b + 1) * S + i) := by
  have hSL : taps.length ≤ S := by have := calcFftSize_ge taps.length; omega
  simp only [fftBatch_conv taps _ tail S hS (List.length_take_le _ _), Nat.succ_mul b]
  refine ⟨List.map_congr_left fun i hi => ?_, fun i hi => ?_⟩
  · have hi := List.mem_range.mp hi
    rw [← convAt_take_of_lt taps X (q := b * S + S) (by omega), convAt_take_add, add_comm]
    congr 1
    split
    · next hil => exact htail i hil
    · exact (convAt_take_of_ge taps X (by omega)).symm
  · rw [getD_map_range _ _ hi, Nat.add_assoc, convAt_take_add, convAt_take_of_ge taps X (by omega), zero_add]

theorem ola_run (taps X : List R) (S : ℕ) (hS : calcFftSize taps.length - taps.length = S) (B b : ℕ) (tail : List R)
    (htail : ∀ i, i < taps.length → tail.getD i 0 = convAt taps (X.take (b * S)) (b * S + i)) :
    olaRun (ringOps R) taps S X B b tail = (List.range (B * S)).map (fun i => convAt taps X (b * S + i)) := by
  induction B generalizing b tail with
  | zero => simp [olaRun]
  | succ B ih =>
    obtain ⟨hout, hnext⟩ := ola_step taps X tail S b hS htail
    unfold olaRun
    simp only
    rw [hout, ih (b + 1) _ hnext, Nat.succ_mul B, Nat.add_comm (B * S), ← range_add_map]
    simp only [Nat.succ_mul, Nat.add_assoc]

theorem ola_eq_conv (taps X : List R) (B : ℕ) :
    olaRun (ringOps R) taps (calcFftSize taps.length - taps.length) X B 0 (List.replicate taps.length 0) =
      (List.range (B * (calcFftSize taps.length - taps.length))).map (fun n => convAt taps X n) := by
  have := ola_run taps X _ rfl B 0 (List.replicate taps.length 0) fun i _ => by
    rw [getD_replicate, Nat.zero_mul, List.take_zero]
    exact (Finset.sum_eq_zero fun k _ => by rw [List.getD_nil, mul_zero, ite_self]).symm
  simpa using this

theorem fftInv_conv (cd : Codec R) (taps : List R) (Xn : List Nat) (st : FftSt R) (c : Nat) (out : List Nat)
    (h : FftInv (ringOps R) cd taps Xn st c out) :
    let S := calcFftSize taps.length - taps.length
    ∃ B, c = B * S + st.buf.length ∧ st.buf.length < S ∧
      out = ((List.range (B * S)).map fun n => convAt taps (Xn.map cd.dec) n).map cd.enc := by
  obtain ⟨B, hc, hlt, _, hrun⟩ := h
  refine ⟨B, hc, hlt, ?_⟩
  have := hrun 0
  simp only [olaRun, List.map_nil, List.append_nil, Nat.add_zero] at this
  rw [← this]
  exact congrArg (List.map cd.enc) (ola_eq_conv taps (Xn.map cd.dec) B)

end RR.Dsp
