import RR.Proof.HdlcStep
import RR.Spec.Hdlc

/-!
Resynchronisation: from EVERY reachable state of the deframer, a flag leaves it
right after a flag (`synced 0 []`) — whatever noise came before. While a flag goes by the state
holds the bits of it seen so far (`Seen`): on top of the search register, or as the count of ones;
a too-long reset in the middle hands the search exactly those bits.
-/
namespace RR.Hdlc
open RR.HdlcSpec

/-- What `resync` needs of a reachable state; it holds of `init` and `step` keeps it (`wf_step`). -/
def WF : State → Prop
  | .unsynced v => v < 256
  | _ => True

theorem wf_step (cfg : Cfg) (s : State) (bit : Nat) (h : WF s) : WF (step cfg s bit).1 := by
  cases s with
  | unsynced v =>
    rw [step_unsynced]
    split
    · trivial
    · exact shiftIn_lt v bit h
  | synced ones bits =>
    by_cases t : bits.length > cfg.maxSize * 8 + 7
    · rw [step_too_long cfg ones bits bit t]
      exact shiftIn_lt _ bit (Nat.lt_succ_of_le (Nat.sub_le _ _))
    · rw [step_synced cfg ones bits bit (by omega)]
      split <;> split <;> trivial
  | finalCheck bits =>
    by_cases hb : bit = 1
    · rw [hb, step_final_one]; exact (by decide : 0xff < 256)
    · rw [step_final cfg bits bit hb]; trivial

theorem wf_run (cfg : Cfg) (l : List Nat) : ∀ s, WF s → WF (run cfg s l).1 := by
  induction l with
  | nil => intro s h; exact h
  | cons b rest ih =>
    intro s h
    rw [run_fst_cons]
    exact ih _ (wf_step cfg s b h)

/-- The state after the opening zero of a flag and `i` of its ones: the search register has `0 1ⁱ` as its
top `i + 1` bits (newest on top), or the ones are counted. -/
def Seen (i : Nat) : State → Prop
  | .unsynced w => w >>> (7 - i) = 2 ^ (i + 1) - 2
  | .synced ones _ => ones = i ∧ i ≤ 5
  | .finalCheck _ => i = 6

theorem seen_search_zero (v : Nat) (h : v < 256) : Seen 0 (.unsynced (shiftIn v 0)) := by
  rw [shiftIn_zero]
  exact (Nat.shiftRight_add v 1 7).symm.trans (Nat.shiftRight_eq_zero v 8 h)

theorem seen_zero (cfg : Cfg) (s : State) (h : WF s) : Seen 0 (step cfg s 0).1 := by
  cases s with
  | unsynced v =>
    rw [step_unsynced]
    split
    · exact ⟨rfl, Nat.zero_le 5⟩
    · exact seen_search_zero v h
  | synced ones bits =>
    by_cases t : bits.length > cfg.maxSize * 8 + 7
    · rw [step_too_long cfg ones bits 0 t]
      exact seen_search_zero _ (Nat.lt_succ_of_le (Nat.sub_le _ _))
    · rw [step_synced cfg ones bits 0 (by omega), if_neg (Nat.lt_irrefl 0)]
      split <;> exact ⟨rfl, Nat.zero_le 5⟩
  | finalCheck bits =>
    rw [step_final cfg bits 0 (by decide)]
    exact ⟨rfl, Nat.zero_le 5⟩

/-- one more `1` into a search register that holds `0 1ⁱ` on top: no match, and it holds `0 1ⁱ⁺¹` -/
theorem search_one (i w : Nat) (hi : i < 6) (h : w >>> (7 - i) = 2 ^ (i + 1) - 2) :
    shiftIn w 1 ≠ Gen.hdlcFlag ∧ shiftIn w 1 >>> (7 - (i + 1)) = 2 ^ (i + 1 + 1) - 2 := by
  have top : ∀ i < 6, (2 ^ (i + 1) - 2) ||| 128 >>> (7 - (i + 1)) = 2 ^ (i + 1 + 1) - 2 := by decide
  rw [shiftIn_one]
  constructor
  · intro e
    have : 128 ≤ w >>> 1 ||| 128 := Nat.right_le_or
    rw [e] at this
    exact absurd this (by decide)
  · rw [Nat.shiftRight_or_distrib, ← Nat.shiftRight_add, (by omega : 1 + (7 - (i + 1)) = 7 - i), h, top i hi]

/-- the register a too-long reset hands over holds `0 1ᵒⁿᵉˢ` on top -/
theorem reset_top : ∀ ones < 6, (0xff - 1 <<< (7 - ones)) >>> (7 - ones) = 2 ^ (ones + 1) - 2 := by decide

theorem seen_one (cfg : Cfg) (i : Nat) (s : State) (hi : i < 6) (h : Seen i s) : Seen (i + 1) (step cfg s 1).1 := by
  cases s with
  | unsynced w =>
    obtain ⟨hne, hw⟩ := search_one i w hi h
    rw [step_unsynced, if_neg (by simpa using hne)]
    exact hw
  | synced ones bits =>
    obtain ⟨rfl, _⟩ := h
    by_cases t : bits.length > cfg.maxSize * 8 + 7
    · rw [step_too_long cfg ones bits 1 t]
      exact (search_one ones _ hi (reset_top ones hi)).2
    · by_cases h5 : ones = 5
      · subst h5
        rw [step_sixth_one cfg bits (by omega)]
        exact rfl
      · rw [step_data_one cfg ones bits (by omega) (by omega)]
        exact ⟨rfl, by omega⟩
  | finalCheck bits => exact absurd h (Nat.ne_of_lt hi)

theorem seen_end (cfg : Cfg) (s : State) (h : Seen 6 s) : (step cfg s 0).1 = .synced 0 [] := by
  cases s with
  | unsynced w => rw [step_unsynced, shiftIn_zero, h]; rfl
  | synced ones bits => exact absurd h.2 (by decide)
  | finalCheck bits => rw [step_final cfg bits 0 (by decide)]

theorem resync (cfg : Cfg) (s : State) (hwf : WF s) : (run cfg s flag).1 = .synced 0 [] := by
  simp only [flag, run_fst_cons, run_nil]
  exact seen_end cfg _ (seen_one cfg 5 _ (by decide) (seen_one cfg 4 _ (by decide) (seen_one cfg 3 _ (by decide)
    (seen_one cfg 2 _ (by decide) (seen_one cfg 1 _ (by decide) (seen_one cfg 0 _ (by decide)
      (seen_zero cfg s hwf)))))))

theorem run_opening (cfg : Cfg) : run cfg init flag = (.synced 0 [], []) := rfl

theorem resync_after_noise (cfg : Cfg) (noise : List Nat) : (run cfg init (noise ++ flag)).1 = .synced 0 [] := by
  rw [run_append]
  exact resync cfg _ (wf_run cfg noise init (by decide : 0xff < 256))

end RR.Hdlc
