import RR.Spec.Chain
import RR.Proof.Sync
import RR.Proof.Lfsr
import RR.Proof.HdlcRoundtrip
import RR.Proof.HdlcResync

/-!
The digital back end of the receive chains, composed: NRZI decoder, (G3RUH
descrambler,) HDLC deframer — against the transmitter (HDLC framing,
(scrambler,) NRZI encoder), for every payload, scrambler seed, line level and decoder state (a polarity
flip of the line is a flip of the decoder's state, `nrziSpec_flip`).
-/
namespace RR.Chain
open RR RR.Blk RR.Lfsr RR.Hdlc RR.HdlcSpec

theorem level_lt2 (level b : Nat) (hl : level < 2) : (if b = 0 then 1 - level else level) < 2 := by
  split <;> omega

theorem nrziEnc_lt2 (level : Nat) (hl : level < 2) (l : List Nat) : ∀ x ∈ nrziEnc level l, x < 2 := by
  induction l generalizing level with
  | nil => exact fun _ h => nomatch h
  | cons b rest ih =>
    have hl' := level_lt2 level b hl
    simp only [nrziEnc]
    exact List.forall_mem_cons.mpr ⟨hl', ih _ hl'⟩

/-- A slicer that sees the signs of the line levels returns the levels. -/
theorem slice_signs {α : Type} (sign : α → Bool) (rows : List α) (levels : List Nat) (hl : ∀ x ∈ levels, x < 2)
    (h : rows.map sign = levels.map (· == 1)) : (rows.map fun r => if sign r then 1 else 0) = levels := by
  refine (List.map_map (g := fun s : Bool => if s then 1 else 0)).symm.trans ?_
  rw [h, List.map_map]
  refine (List.map_congr_left fun x hx => ?_).trans (List.map_id levels)
  rcases (by have := hl x hx; omega : x = 0 ∨ x = 1) with rfl | rfl <;> rfl

theorem nrziSpec_length (prev : Nat) (l : List Nat) : (nrziSpec prev l).length = l.length := by
  induction l generalizing prev with
  | nil => rfl
  | cons a rest ih => simp [nrziSpec, ih]

theorem nrziEnc_length (level : Nat) (l : List Nat) : (nrziEnc level l).length = l.length := by
  induction l generalizing level with
  | nil => rfl
  | cons a rest ih => simp [nrziEnc, ih]

theorem nrzi_inv (level : Nat) (hl : level < 2) (bits : List Nat) (hb : ∀ b ∈ bits, b < 2) :
    nrziSpec level (nrziEnc level bits) = bits := by
  induction bits generalizing level with
  | nil => rfl
  | cons b rest ih =>
    have hb0 : b < 2 := hb b (by simp)
    simp only [nrziEnc, nrziSpec]
    have hl' := level_lt2 level b hl
    rw [ih _ hl' (fun x hx => hb x (by simp [hx]))]
    congr 1
    rcases (by omega : level = 0 ∨ level = 1) with rfl | rfl <;>
      rcases (by omega : b = 0 ∨ b = 1) with rfl | rfl <;> decide

/-- The decoder's state matters for the first bit only. -/
theorem nrzi_cons (level prev b : Nat) (rest : List Nat) (hl : level < 2) (hb : ∀ x ∈ b :: rest, x < 2) :
    nrziSpec prev (nrziEnc level (b :: rest)) = (1 ^^^ (if b = 0 then 1 - level else level) ^^^ prev) :: rest := by
  simp only [nrziEnc, nrziSpec]
  rw [nrzi_inv _ (level_lt2 level b hl) rest (List.forall_mem_cons.mp hb).2]

theorem nrzi_any_start (level prev : Nat) (hl : level < 2) (hp : prev < 2) (b : Nat) (rest : List Nat)
    (hb : ∀ x ∈ b :: rest, x < 2) : ∃ r0, r0 < 2 ∧ nrziSpec prev (nrziEnc level (b :: rest)) = r0 :: rest :=
  ⟨_, Nat.xor_lt_two_pow (n := 1) (Nat.xor_lt_two_pow (n := 1) (by omega) (level_lt2 level b hl)) hp,
    nrzi_cons level prev b rest hl hb⟩

/-- A polarity flip of the line is a flip of the decoder's state. -/
theorem nrziSpec_flip (p : Nat) (l : List Nat) (hp : p < 2) (hl : ∀ x ∈ l, x < 2) :
    nrziSpec (1 - p) (l.map fun x => 1 - x) = nrziSpec p l := by
  induction l generalizing p with
  | nil => rfl
  | cons x xs ih =>
    obtain ⟨hx, hxs⟩ := List.forall_mem_cons.mp hl
    simp only [List.map_cons, nrziSpec]
    rw [ih x hx hxs]
    congr 1
    rcases (by omega : p = 0 ∨ p = 1) with rfl | rfl <;>
      rcases (by omega : x = 0 ∨ x = 1) with rfl | rfl <;> decide

/-- Why 18 preamble bits: the first decoded bit is lost to the unknown NRZI start, and the next 17 fill the
descrambler's history with what the scrambler's holds (whatever its seed history `hs`). -/
theorem scrambled_link (P F hs : List Nat) (hP : ∀ x ∈ P, x < 2) (hF : ∀ x ∈ F, x < 2) (hhs : ∀ x ∈ hs, x < 2)
    (hlen : 18 ≤ P.length) (level prev : Nat) (hl : level < 2) (hp : prev < 2) :
    ∃ noise, noise.length = P.length ∧
      lfsrRun 0 (nrziSpec prev (nrziEnc level (scrL hs (P ++ F)))) = noise ++ F := by
  cases P with
  | nil => simp at hlen
  | cons p0 P' =>
    have hb := scrL_bits _ hs (List.forall_mem_append.mpr ⟨hP, hF⟩) hhs
    simp only [List.cons_append, scrL] at hb ⊢
    obtain ⟨r0, hr0, hR⟩ := nrzi_any_start level prev hl hp _ _ hb
    -- the seed `0` is the register of the empty history (`enc [] = 0` by evaluation)
    rw [hR, show lfsrRun 0 _ = _ from lfsrRun_eq_descrL _
      (List.forall_mem_cons.mpr ⟨hr0, (List.forall_mem_cons.mp hb).2⟩) [] (by simp)]
    simp only [descrL]
    rw [descr_sync _ _ P' F (by simpa using hlen)]
    exact ⟨_ :: descrL _ (scrL _ P'), by simp [descrL_length, scrL_length], rfl⟩

theorem stuffFrom_bits (ones : Nat) (d : List Nat) (hd : ∀ x ∈ d, x < 2) : ∀ x ∈ stuffFrom ones d, x < 2 := by
  fun_induction stuffFrom ones d with
  | case1 => exact fun _ h => nomatch h
  | case2 _ rest _ ih =>
    exact List.forall_mem_cons.mpr ⟨by decide, List.forall_mem_cons.mpr ⟨by decide, ih (List.forall_mem_cons.mp hd).2⟩⟩
  | case3 _ rest _ ih => exact List.forall_mem_cons.mpr ⟨by decide, ih (List.forall_mem_cons.mp hd).2⟩
  | case4 _ b rest _ ih =>
    exact List.forall_mem_cons.mpr ⟨(List.forall_mem_cons.mp hd).1, ih (List.forall_mem_cons.mp hd).2⟩

theorem flag_bits : ∀ x ∈ flag, x < 2 := by decide

theorem body_bits (p : List Nat) : ∀ x ∈ body p, x < 2 :=
  List.forall_mem_append.mpr ⟨stuffFrom_bits 0 _ (lsbBits_bits _), flag_bits⟩

theorem txFrames_bits (ps : List (List Nat × Nat)) : ∀ x ∈ txFrames ps, x < 2 :=
  List.forall_mem_append.mpr ⟨flag_bits, List.forall_mem_flatMap.mpr fun q _ => List.forall_mem_append.mpr
    ⟨body_bits q.1, List.forall_mem_flatten.mpr fun _ hl => List.eq_of_mem_replicate hl ▸ flag_bits⟩⟩

theorem deframe_after_noise (cfg : Cfg) (hs : cfg.stripChecksum = true) (noise : List Nat) (ps : List (List Nat × Nat))
    (hps : ∀ q ∈ ps, (∀ b ∈ q.1, b < 256) ∧ cfg.minSize ≤ q.1.length + 2 ∧ q.1.length + 2 ≤ cfg.maxSize) :
    (run cfg init (noise ++ txFrames ps)).2 = (run cfg init (noise ++ flag)).2 ++ ps.map (·.1) := by
  rw [txFrames, ← List.append_assoc, run_bodies cfg hs ps hps (resync_after_noise cfg noise)]

end RR.Chain
