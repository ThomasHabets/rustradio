import RR.Spec.Ideal
import RR.Proof.Gated
import Mathlib.Tactic.LinearCombination

/-!
Clock recovery by `ZeroCrossing` on an ideal NRZ waveform, in EXACT arithmetic.

The block's step (`zcStep`, the very definition the driver runs in `Float32`
against the real block) is instantiated with rationals: `+ - /2 10*` exact,
`as u64` = floor, `as f32` = the cast. For every samples-per-symbol `sps ≥ 4`
(any rational, e.g. 50000/9600), every symbol sequence and any run lengths, the
block emits exactly one sample per symbol, taken inside that symbol, so the
slicer sees exactly the transmitted line levels. What the theorem cannot carry
is `f32` rounding of `last_cross += clock` (the block's `step_back` keeps those
values below `20·sps`; at the example's 50000/9600 that is below 128, where `f32` has
17 fractional bits).

`ZNum` is the arithmetic of a block that never steps back, with one lemma per thing a sample can do to
`last_cross` (`znum_wait`, `znum_emit`, `znum_cross`); `ZInv` ties the real state to it by the total
step-back `D`, and `zc_step` is one sample of the real step.
-/
namespace RR.Blk

theorem pos_wave (sps : ℚ) (b : List Bool) (pos : Nat → Bool) (hi lo : Nat) (hhi : pos hi = true)
    (hlo : pos lo = false) (i : ℕ) : pos (wave sps b hi lo i) = b.getD (symIdx sps i) false := by
  unfold wave
  split <;> simp_all

theorem le_symIdx_iff {sps : ℚ} (hs : 0 < sps) (i k : ℕ) : k ≤ symIdx sps i ↔ (k : ℚ) * sps ≤ i := by
  have h0 : (0 : ℚ) ≤ i / sps := div_nonneg (Nat.cast_nonneg i) hs.le
  rw [symIdx, Nat.le_floor_iff h0, le_div_iff₀ hs]

theorem symIdx_lt_iff {sps : ℚ} (hs : 0 < sps) (i k : ℕ) : symIdx sps i < k ↔ (i : ℚ) < k * sps := by
  have h0 : (0 : ℚ) ≤ i / sps := div_nonneg (Nat.cast_nonneg i) hs.le
  rw [symIdx, Nat.floor_lt h0, div_lt_iff₀ hs]

theorem symIdx_eq (sps : ℚ) (hs : 0 < sps) (i s : ℕ) (h1 : (s : ℚ) * sps ≤ i) (h2 : (i : ℚ) < (s + 1) * sps) :
    symIdx sps i = s := by
  have := (le_symIdx_iff hs i s).mpr h1
  have := (symIdx_lt_iff hs i (s + 1)).mpr (by push_cast; exact h2)
  omega

theorem symIdx_mono {sps : ℚ} (hs : 0 < sps) {i j : ℕ} (h : i ≤ j) : symIdx sps i ≤ symIdx sps j :=
  (le_symIdx_iff hs j _).mpr (le_trans ((le_symIdx_iff hs i _).mp (Nat.le_refl _)) (by exact_mod_cast h))

theorem le_symIdx_pred_iff {sps : ℚ} (hs : 0 < sps) {i : ℕ} (hi : 0 < i) (k : ℕ) :
    k ≤ symIdx sps (i - 1) ↔ (k : ℚ) * sps + 1 ≤ i := by
  rw [le_symIdx_iff hs, Nat.cast_pred hi]
  exact le_sub_iff_add_le

theorem symIdx_pred_lt_iff {sps : ℚ} (hs : 0 < sps) {i : ℕ} (hi : 0 < i) (k : ℕ) :
    symIdx sps (i - 1) < k ↔ (i : ℚ) < k * sps + 1 := by
  rw [symIdx_lt_iff hs, Nat.cast_pred hi]
  exact sub_lt_iff_lt_add

/-- Where `last_cross = L` may be before sample `i`, with `k` symbols emitted: within a sample after
the start of symbol `k`; the next emission (at `⌊L + sps/2⌋`) still ahead, the last one behind. -/
def ZNum (sps L : ℚ) (i k : ℕ) : Prop :=
  (k : ℚ) * sps ≤ L ∧ L < k * sps + 1 ∧ (i : ℚ) ≤ L + sps / 2 ∧ ((k : ℚ) - 1) * sps + 1 < i

/-- Before the emission sample nothing moves. -/
theorem znum_wait {sps L : ℚ} (hs : 0 < sps) {i k : ℕ} (h : ZNum sps L i k) (he : i ≠ ⌊L + sps / 2⌋₊) :
    ZNum sps L (i + 1) k := by
  obtain ⟨h1, h2, h3, h4⟩ := h
  have hT0 : (0 : ℚ) ≤ L + sps / 2 := by
    have := mul_nonneg (Nat.cast_nonneg (α := ℚ) k) hs.le
    linear_combination this + h1 + (1 / 2) * hs.le
  have hlt : i + 1 ≤ ⌊L + sps / 2⌋₊ := by
    have := (Nat.le_floor_iff hT0).mpr h3
    omega
  exact ⟨h1, h2, (Nat.le_floor_iff hT0).mp hlt, by push_cast; linear_combination h4⟩

/-- The emission sample and its predecessor lie in symbol `k`, a sample or more from its ends (this is
where `sps ≥ 4` is needed), and `last_cross` moves on by one symbol. -/
theorem znum_emit {sps L : ℚ} (hs : 4 ≤ sps) {i k : ℕ} (h : ZNum sps L i k) (he : i = ⌊L + sps / 2⌋₊) :
    ZNum sps (L + sps) (i + 1) (k + 1) ∧ symIdx sps i = k ∧ i ≠ 0 ∧ symIdx sps (i - 1) = k := by
  obtain ⟨h1, h2, _, _⟩ := h
  have hsp : 0 < sps := lt_of_lt_of_le (by norm_num) hs
  have hk0 := mul_nonneg (Nat.cast_nonneg (α := ℚ) k) hsp.le
  -- `i ≤ L + sps/2 < i + 1`, and `L + sps/2` is at least two samples from both ends of the symbol
  have hT0 : (0 : ℚ) ≤ L + sps / 2 := by linear_combination hk0 + h1 + (1 / 2) * hsp.le
  have hT1 := Nat.floor_le hT0
  have hT2 := Nat.lt_floor_add_one (L + sps / 2)
  rw [← he] at hT1 hT2
  have m1 : (k : ℚ) * sps + 1 ≤ i := by linear_combination h1 + hT2 + (1 / 2) * hs
  have m2 : (i : ℚ) + 1 < (k + 1) * sps := by linear_combination hT1 + h2 + (1 / 2) * hs
  have hi0 : 0 < i := Nat.cast_pos.mp (lt_of_lt_of_le (add_pos_of_nonneg_of_pos hk0 one_pos) m1)
  have := (le_symIdx_pred_iff hsp hi0 k).mpr m1
  have := (symIdx_pred_lt_iff hsp hi0 (k + 1)).mpr (by push_cast; linear_combination m2)
  refine ⟨⟨by push_cast; linear_combination h1, by push_cast; linear_combination h2,
    by push_cast; linear_combination hT1 + hs, by push_cast; linear_combination m1⟩,
    symIdx_eq sps hsp i k (by linear_combination m1) (by linear_combination m2), hi0.ne', by omega⟩

/-- A sample whose symbol differs from its predecessor's, met before the emission sample, is the first
sample of symbol `k`: `last_cross` is re-anchored there. -/
theorem znum_cross {sps L : ℚ} (hs : 2 ≤ sps) {i k : ℕ} (h : ZNum sps L i k) (he : i ≠ ⌊L + sps / 2⌋₊)
    (hx : i ≠ 0 → symIdx sps i ≠ symIdx sps (i - 1)) : ZNum sps i (i + 1) k := by
  have hsp : 0 < sps := lt_of_lt_of_le two_pos hs
  obtain ⟨_, h2, h3, h4'⟩ := znum_wait hsp h he
  obtain ⟨_, _, _, h4⟩ := h
  suffices hf : (k : ℚ) * sps ≤ i ∧ (i : ℚ) < k * sps + 1 from
    ⟨hf.1, hf.2, by push_cast; linear_combination (1 / 2) * hs, h4'⟩
  rcases Nat.eq_zero_or_pos i with rfl | hi0
  · rw [Nat.cast_zero] at h4
    have : (k : ℚ) * sps < 1 * sps := by linear_combination h4
    obtain rfl : k = 0 := Nat.lt_one_iff.mp (by exact_mod_cast lt_of_mul_lt_mul_right this hsp.le)
    simp
  · -- symbols `≥ k - 1` before, `≤ k` now, and different: `k - 1` before and `k` now
    have hne := hx hi0.ne'
    have hA : symIdx sps i < k + 1 := (symIdx_lt_iff hsp i (k + 1)).mpr
      (by push_cast at h3 ⊢; linear_combination h3 + h2 + (1 / 2) * hsp.le)
    have hC : symIdx sps (i - 1) ≤ symIdx sps i := symIdx_mono hsp (Nat.sub_le i 1)
    have hB : k ≤ symIdx sps (i - 1) + 1 := by
      cases k with
      | zero => omega
      | succ q =>
        have := (le_symIdx_pred_iff hsp hi0 q).mpr (by push_cast at h4; linear_combination h4)
        omega
    exact ⟨(le_symIdx_iff hsp i k).mp (by omega), (symIdx_pred_lt_iff hsp hi0 k).mp (by omega)⟩

/-- The state of the block before sample `i` of the ideal waveform, with `k` symbols emitted.
`ZeroCrossing` keeps `counter` and `last_cross` small by subtracting `step_back` from both now and then;
`D` is what has been subtracted so far, so that `counter + D` and `last_cross + D` are those of a block
without step-backs: the sample index and the `L` of `ZNum`. -/
def ZInv (sps : ℚ) (b : List Bool) (i k : ℕ) (st : ZcSt ℚ) : Prop :=
  st.clock = sps ∧ st.lastSign = (if i = 0 then false else b.getD (symIdx sps (i - 1)) false) ∧
    ∃ D : ℕ, st.counter + D = i ∧ ZNum sps (st.lastCross + D) i k

/-- **One sample** of the ideal waveform: a row is emitted (`e`) exactly at the sample in the middle of
symbol `k`; a sign change re-anchors `last_cross` at the first sample of symbol `k`. -/
theorem zc_step (sps : ℚ) (hs : 4 ≤ sps) (b : List Bool) (pos : Nat → Bool) (hi lo : Nat) (hhi : pos hi = true)
    (hlo : pos lo = false) (i k : ℕ) (st : ZcSt ℚ) (hinv : ZInv sps b i k st) :
    ∃ (e : Bool) (st' : ZcSt ℚ),
      zcStep (ratZOps pos) st (wave sps b hi lo i) = (st', if e then some [wave sps b hi lo i, 0] else none) ∧
      (e = true → symIdx sps i = k) ∧ ZInv sps b (i + 1) (if e then k + 1 else k) st' := by
  obtain ⟨hclk, hsign, D, hctr, hnum⟩ := hinv
  have hsp : 0 < sps := lt_of_lt_of_le four_pos hs
  -- the emission test compares the same two numbers, both moved by `D ≤ i ≤ last_cross + D + sps/2`
  have hemit : (st.counter == ⌊st.lastCross + sps / 2⌋₊) = (i == ⌊st.lastCross + D + sps / 2⌋₊) := by
    have hF : D ≤ ⌊st.lastCross + D + sps / 2⌋₊ :=
      Nat.le_floor (le_trans (Nat.cast_le.mpr (by omega)) hnum.2.2.1)
    rw [show st.lastCross + sps / 2 = st.lastCross + D + sps / 2 - (D : ℚ) by ring, Nat.floor_sub_natCast,
      ← hctr, Bool.eq_iff_iff, beq_iff_eq, beq_iff_eq]
    omega
  simp only [zcStep, ratZOps, pos_wave sps b pos hi lo hhi hlo i, hclk, hemit]
  generalize he : (i == ⌊st.lastCross + D + sps / 2⌋₊) = e
  refine ⟨e, _, rfl, ?_⟩
  -- the new `last_cross` before the step-back
  generalize hL : (if (b.getD (symIdx sps i) false != st.lastSign) = true then (st.counter : ℚ)
    else if e = true then st.lastCross + sps else st.lastCross) = L
  have hL' : (e = true → symIdx sps i = k) ∧ ZNum sps (L + D) (i + 1) (if e = true then k + 1 else k) := by
    rw [← hL]
    cases e
    · have he := ne_of_beq_false he
      refine ⟨fun h => (nomatch h), ?_⟩
      rw [if_neg Bool.false_ne_true, if_neg Bool.false_ne_true]
      by_cases hx : (b.getD (symIdx sps i) false != st.lastSign) = true
      · rw [if_pos hx, ← Nat.cast_add, hctr]
        refine znum_cross (le_trans (by norm_num) hs) hnum he fun hi0 h => ?_
        rw [hsign, if_neg hi0, h] at hx
        simp at hx
      · rw [if_neg hx]
        exact znum_wait hsp hnum he
    · obtain ⟨hnum', hsym, hi0, hsym'⟩ := znum_emit hs hnum (beq_iff_eq.mp he)
      have hnc : (b.getD (symIdx sps i) false != st.lastSign) = false := by
        rw [hsign, if_neg hi0, hsym, hsym']; simp
      rw [hnc, if_neg Bool.false_ne_true, if_pos rfl, if_pos rfl, add_right_comm]
      exact ⟨fun _ => hsym, hnum'⟩
  refine ⟨hL'.1, ?_⟩
  generalize (if e = true then k + 1 else k) = k' at hL' ⊢
  -- the step-back keeps `counter + D` and `last_cross + D`
  have hnew : b.getD (symIdx sps i) false = (if i + 1 = 0 then false else b.getD (symIdx sps (i + 1 - 1)) false) := by
    simp
  split_ifs with hc
  · simp only [Bool.and_eq_true, decide_eq_true_eq] at hc
    refine ⟨rfl, hnew, D + ⌊10 * sps⌋₊, by show st.counter + 1 - _ + _ = i + 1; omega, ?_⟩
    show ZNum sps (L - _ + ((D + ⌊10 * sps⌋₊ : ℕ) : ℚ)) _ _
    rw [show L - (⌊10 * sps⌋₊ : ℚ) + ((D + ⌊10 * sps⌋₊ : ℕ) : ℚ) = L + D by push_cast; ring]
    exact hL'.2
  · exact ⟨rfl, hnew, D, by show st.counter + 1 + D = i + 1; omega, hL'.2⟩

/-- The first `n` samples of the waveform. `hn`: they all lie in one of the `|b|` symbols, which is why the
symbol of an emitted row exists in `b`. -/
theorem zc_run (sps : ℚ) (hs : 4 ≤ sps) (b : List Bool) (pos : Nat → Bool) (hi lo : Nat) (hhi : pos hi = true)
    (hlo : pos lo = false) (n : ℕ) (hn : (n : ℚ) < b.length * sps + 1) :
    ∃ st k rows, gatedRun (zcGated (ratZOps pos) sps 1) ((List.range n).map (wave sps b hi lo))
        (zcGated (ratZOps pos) sps 1).init [] = some (st, rows) ∧
      ZInv sps b n k st ∧ rows.map (rowSign pos) = b.take k := by
  induction n with
  | zero =>
    refine ⟨_, 0, [], rfl, ⟨rfl, rfl, 0, rfl, ?_⟩, rfl⟩
    show ZNum sps ((0 : ℕ) + (0 : ℕ)) 0 0
    refine ⟨by simp, by simp, ?_, ?_⟩
    · push_cast; linear_combination (1 / 2) * hs
    · push_cast; linear_combination hs
  | succ n ih =>
    have hlt : (n : ℚ) < b.length * sps := by push_cast at hn; linear_combination hn
    obtain ⟨st, k, rows, hrun, hinv, hrows⟩ := ih (by linear_combination hlt)
    obtain ⟨e, st1, hstep, hsym, hinv'⟩ := zc_step sps hs b pos hi lo hhi hlo n k st hinv
    have hG : (zcGated (ratZOps pos) sps 1).step st (wave sps b hi lo n) = some _ := congrArg some hstep
    rw [List.range_succ, List.map_append, gatedRun_append, hrun]
    simp only [Option.bind_some, List.map_cons, List.map_nil, gatedRun, hG]
    cases e
    · exact ⟨st1, k, rows, rfl, hinv', hrows⟩
    · -- the emitted symbol exists
      have hsym := hsym rfl
      have hkm : k < b.length := hsym ▸ (symIdx_lt_iff (lt_of_lt_of_le four_pos hs) n b.length).mpr hlt
      refine ⟨st1, k + 1, _, rfl, hinv', ?_⟩
      rw [List.map_append, hrows, List.take_add_one]
      congr 1
      simp only [List.map_cons, List.map_nil, rowSign, List.getD_cons_zero, pos_wave sps b pos hi lo hhi hlo n, hsym]
      rw [List.getD_eq_getElem?_getD, List.getElem?_eq_getElem hkm]
      simp

end RR.Blk
