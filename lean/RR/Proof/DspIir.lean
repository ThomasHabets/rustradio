import RR.Proof.DspAlg

/-!
The IIR filters in exact arithmetic. `IirFilter` keeps a buffer of at most `L-1` outputs; `iirRef` is the recurrence
written over the whole output history, and the buffer is always the last `L-1` entries of that history (`iir_step`,
`iir_recurrence`). `SinglePoleIir`: its recurrence and closed form.
-/
namespace RR.Dsp
open Finset
variable {R : Type} [CommRing R]

theorem foldl_add_range (f : ℕ → R) (n : ℕ) (a : R) :
    (List.range n).foldl (fun acc i => acc + f i) a = a + ∑ i ∈ range n, f i := by
  rw [← sum_map_range, ← foldl_add, List.foldl_map]

/-- The buffer keeps the last `m` outputs: one more is appended and, once there are `m + 1`, the oldest dropped. -/
theorem lastN_snoc {α : Type} (hist : List α) (m : ℕ) (y : α) :
    (if (hist.drop (hist.length - m) ++ [y]).length = m + 1 then (hist.drop (hist.length - m) ++ [y]).drop 1
      else hist.drop (hist.length - m) ++ [y]) = (hist ++ [y]).drop ((hist ++ [y]).length - m) := by
  simp only [List.length_append, List.length_drop, List.length_singleton, List.drop_append, List.drop_drop]
  split
  · congr 2 <;> omega
  · rw [show hist.length + 1 - m = 0 by omega, show hist.length - m = 0 by omega, Nat.zero_sub]
    rfl

/-- One sample, with the kept buffer the last `L-1` outputs of the history: `IirFilter::filter` returns the next
value `y` of the recurrence and keeps the last `L-1` of the history with `y`. -/
theorem iir_step (taps : List R) (ht : taps ≠ []) (hist : List R) (x : R) (xs : List R) :
    ∃ y, iirRef taps hist (x :: xs) = y :: iirRef taps (hist ++ [y]) xs ∧
      iirStep (ringOps R) taps (hist.drop (hist.length - (taps.length - 1))) x =
        some ((hist ++ [y]).drop ((hist ++ [y]).length - (taps.length - 1)), y) := by
  refine ⟨_, rfl, ?_⟩
  obtain ⟨t0, rest, rfl⟩ := List.exists_cons_of_ne_nil ht
  -- the fold over the reversed buffer is the sum over the history, term by term
  have hs : ∀ i, i < min hist.length rest.length →
      (hist.drop (hist.length - rest.length)).reverse.getD i 0 * (t0 :: rest).getD (i + 1) 0 =
        (t0 :: rest).getD (i + 1) 0 * hist.getD (hist.length - 1 - i) 0 := fun i hi => by
    rw [getD_reverse 0 (by rw [List.length_drop]; omega), mul_comm, getD_drop, List.length_drop]
    congr 2
    omega
  simp only [iirStep, ringOps, foldl_add_range, List.length_drop, List.length_cons, Nat.add_sub_cancel,
    Nat.sub_sub_eq_min, sum_range_congr hs, lastN_snoc, List.getD_cons_zero]

theorem iir_recurrence (taps : List R) (ht : taps ≠ []) (xs hist : List R) :
    iirRun (ringOps R) taps (hist.drop (hist.length - (taps.length - 1))) xs = some (iirRef taps hist xs) := by
  induction xs generalizing hist with
  | nil => rfl
  | cons x xs ih =>
    obtain ⟨y, h1, h2⟩ := iir_step taps ht hist x xs
    rw [h1, iirRun, h2]
    simp only [ih, Option.map_some]

/-- `IirFilter::filter` on no taps is the `taps[0]` panic. -/
theorem iir_no_taps (buf : List R) (x : R) : iirStep (ringOps R) [] buf x = none := rfl

theorem single_pole_recurrence (a prev x : R) :
    singlePole (ringOps R) a (1 - a) prev x = a * x + (1 - a) * prev := by
  simp only [singlePole, ringOps]; ring

theorem single_pole_closed (a y0 : R) (xs : List R) :
    xs.foldl (fun prev x => singlePole (ringOps R) a (1 - a) prev x) y0 =
      (1 - a) ^ xs.length * y0 + ∑ k ∈ range xs.length, a * (1 - a) ^ (xs.length - 1 - k) * xs.getD k 0 := by
  -- from the front, for every start value: the first sample enters the start value of the rest
  induction xs generalizing y0 with
  | nil => simp
  | cons x xs ih =>
    rw [List.foldl_cons, ih, single_pole_recurrence, List.length_cons, sum_range_succ']
    simp only [List.getD_cons_succ, List.getD_cons_zero, Nat.add_sub_cancel, Nat.sub_zero, Nat.sub_sub,
      Nat.add_comm 1, pow_succ]
    ring

end RR.Dsp
