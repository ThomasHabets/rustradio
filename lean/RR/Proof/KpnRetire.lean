import RR.Proof.KpnRun

/-!
Retiring blocks (C05, C06). Both runners stop calling a block once its `eof()` has answered true after a wait
verdict. On top of the step relation of `KpnRun`: a graph state now also has the set `R` of retired blocks; a
retired block takes no more steps. A retirement is *sound* when every stream the block reads belongs to a block
that is already retired (so that stream is final) and the block has consumed all of it and emitted everything its
history function gives — the contract `eof()` has to meet (`c09_fft_float_eof_sound` for the wrapper block, the
`!eofsound` lines for every catalogue block).

`retire_all_is_reference`: for EVERY interleaving of steps and sound retirements, once all blocks are retired the
stream histories are the sequential reference execution. `unsound_retire_loses`: a reachable state satisfying
`Inv` in which a block still owes output (it is not `Done`) and its stream holds a strict prefix of the reference;
a retirement there, which `RStep.retire` rules out, would end the run with that prefix.
-/
namespace RR.Kpn

theorem allConsumed_iff {nodes : List Node} {s : GState} :
    AllConsumed nodes s ↔ ∀ m, (hm : m < nodes.length) → Done nodes s m hm := Iff.rfl

/-- every retired block was retired soundly, and still is; the streams are those of the graph -/
def RInv (nodes : List Node) (x : List Nat × GState) : Prop :=
  x.2.h.length = base nodes nodes.length ∧
  ∀ m ∈ x.1, ∃ hm : m < nodes.length, EofSound nodes x.1 x.2 m hm

theorem owned_other_unchanged (nodes : List Node) (idx p : Nat) (hp : p < nodes.length) (s s' : GState)
    (st : Step nodes idx s s') (hne : p ≠ idx) (t : Nat) (ho : Owns nodes p hp t) :
    s'.h.getD t [] = s.h.getD t [] :=
  st.others t (base_disjoint nodes p idx hp st.hidx hne t ho.1 ho.2)

theorem eofSound_work (nodes : List Node) (R : List Nat) (s s' : GState) (idx : Nat) (hidx : idx ∉ R)
    (st : Step nodes idx s s') (m : Nat) (hmR : m ∈ R) (hm : m < nodes.length)
    (h : EofSound nodes R s m hm) : EofSound nodes R s' m hm := by
  obtain ⟨hprod, hcons, houts⟩ := h
  have hne : m ≠ idx := fun e => hidx (e ▸ hmR)
  have hcs : s'.cs.getD m [] = s.cs.getD m [] := st.cs_other m hne
  refine ⟨hprod, ?_, ?_⟩
  · intro k hk
    -- the input streams of `m` belong to retired nodes: unchanged
    obtain ⟨p, hp, ho, hpR⟩ := hprod (nodes[m].ins.getD k 0) (by
      rw [List.getD_eq_getElem?_getD, List.getElem?_eq_getElem hk]; exact List.getElem_mem hk)
    rw [hcs, owned_other_unchanged nodes idx p hp s s' st (fun e => hidx (e ▸ hpR)) _ ho]
    exact hcons k hk
  · intro j hj
    rw [hcs, consumedOf_stable _ s.h s'.h _ st.grow fun k hk => Nat.le_of_eq (hcons k hk),
      owned_other_unchanged nodes idx m hm s s' st hne (base nodes m + j) ⟨Nat.le_add_right _ _, by omega⟩]
    exact houts j hj

theorem eofSound_mono (nodes : List Node) (R : List Nat) (s : GState) (m x : Nat) (hm : m < nodes.length)
    (h : EofSound nodes R s m hm) : EofSound nodes (x :: R) s m hm := by
  obtain ⟨hprod, hd⟩ := h
  refine ⟨?_, hd⟩
  intro i hi
  obtain ⟨p, hp, ho, hpR⟩ := hprod i hi
  exact ⟨p, hp, ho, List.mem_cons_of_mem _ hpR⟩

theorem rstep_inv (nodes : List Node) (x y : List Nat × GState) (h : RInv nodes x) (st : RStep nodes x y) :
    RInv nodes y := by
  cases st with
  | work R s s' idx hidx st =>
    refine ⟨st.len.trans h.1, fun m hmR => ?_⟩
    obtain ⟨hm, hs⟩ := h.2 m hmR
    exact ⟨hm, eofSound_work nodes R s s' idx hidx st m hmR hm hs⟩
  | retire R s m hm hs =>
    refine ⟨h.1, fun m' hm'R => ?_⟩
    rcases List.mem_cons.mp hm'R with rfl | hm'R
    · exact ⟨hm, eofSound_mono nodes R s _ _ hm hs⟩
    · obtain ⟨hm', hs'⟩ := h.2 m' hm'R
      exact ⟨hm', eofSound_mono nodes R s m' m hm' hs'⟩

theorem rrun_inv (nodes : List Node) (x y : List Nat × GState) (h : RInv nodes x) (r : RRun nodes x y) :
    RInv nodes y := by
  induction r with
  | refl => exact h
  | step x y z st _ ih => exact ih (rstep_inv nodes x y h st)

theorem retire_all_is_reference (nodes : List Node)
    (hw : ∀ m, (hm : m < nodes.length) → ∀ i ∈ nodes[m].ins, i < base nodes m)
    (R : List Nat) (s : GState)
    (r : RRun nodes ([], ⟨List.replicate (base nodes nodes.length) [], []⟩) (R, s))
    (hall : ∀ m, m < nodes.length → m ∈ R) : s.h = eval nodes [] := by
  have hinv : RInv nodes (R, s) :=
    rrun_inv nodes _ _ ⟨List.length_replicate, fun _ hm => absurd hm List.not_mem_nil⟩ r
  exact terminal_is_reference nodes s hinv.1 hw
    (allConsumed_iff.mpr fun m hm => (hinv.2 m (hall m hm)).2.2)

/-! Why the retirement has to be sound, a two-block witness: a source emitting `[1, 2, 3]` and a pass-through block
that has consumed all three samples but delivered only two of them (the third still inside, as in `FftFilterFloat`
before `fix:` 88f9b55). Retiring it there would end the run with a strict prefix of the reference. -/

theorem exists_eq_append_iff {α} {a b : List α} : (∃ ext, a = b ++ ext) ↔ b <+: a :=
  ⟨fun ⟨e, h⟩ => ⟨e, h.symm⟩, fun ⟨e, h⟩ => ⟨e, h.symm⟩⟩

/- The two steps are finite checks: the clauses of `Step` that range over all stream or block indices
compare two lists read with a default, so they need checking only below the lists' lengths. -/
theorem lag_step1 : Step lagNodes 0 lagS0 lagS1 where
  hidx := by decide
  len := rfl
  cs_other := forall_getD_of_lt (P := fun m a b => m ≠ 0 → a = b) (fun _ _ => rfl) (by decide)
  cs_mono := forall_getD_of_lt (P := fun _ a b => a ≤ b) (fun _ => Nat.le_refl _) (by decide)
  cs_avail := by decide
  outs := by simp only [exists_eq_append_iff]; decide
  grow := by
    simp only [exists_eq_append_iff]
    exact forall_getD_of_lt (P := fun _ a b => b <+: a) (fun _ => List.prefix_refl _) (by decide)
  others := forall_getD_of_lt (P := fun t a b => (t < 0 ∨ 1 ≤ t) → a = b) (fun _ _ => rfl) (by decide)

theorem lag_step2 : Step lagNodes 1 lagS1 lagS2 where
  hidx := by decide
  len := rfl
  cs_other := forall_getD_of_lt (P := fun m a b => m ≠ 1 → a = b) (fun _ _ => rfl) (by decide)
  cs_mono := forall_getD_of_lt (P := fun _ a b => a ≤ b) (fun _ => Nat.le_refl _) (by decide)
  cs_avail := by decide
  outs := by simp only [exists_eq_append_iff]; decide
  grow := by
    simp only [exists_eq_append_iff]
    exact forall_getD_of_lt (P := fun _ a b => b <+: a) (fun _ => List.prefix_refl _) (by decide)
  others := forall_getD_of_lt (P := fun t a b => (t < 1 ∨ 2 ≤ t) → a = b) (fun _ _ => rfl) (by decide)

theorem unsound_retire_loses :
    Run lagNodes lagS0 lagS2 ∧ Inv lagNodes lagS2 ∧ ¬ Done lagNodes lagS2 1 (by decide) ∧
    lagS2.h.getD 1 [] = [1, 2] ∧ (eval lagNodes []).getD 1 [] = [1, 2, 3] := by
  have hrun : Run lagNodes lagS0 lagS2 :=
    Run.step _ _ _ 0 lag_step1 (Run.step _ _ _ 1 lag_step2 (Run.refl _))
  have hw : ∀ m, (hm : m < lagNodes.length) → ∀ i ∈ lagNodes[m].ins, i < base lagNodes m := by decide
  exact ⟨hrun, run_inv lagNodes _ _ (inv_init lagNodes hw) hrun,
    fun hd => absurd (hd.2 0 (by decide)) (by decide), rfl, rfl⟩

end RR.Kpn
