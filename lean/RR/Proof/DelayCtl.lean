import RR.Spec.Blocks

/-!
`Delay::set_delay` (the control call of `delayCtlBlock`): when it panics, and when it changes the pending net
shift — zeros still owed minus samples still to be dropped — by exactly `new − old`, which is what "Change the
delay" has to mean for the output to become the input shifted by the new delay. The block `delayctl` ties
`delaySet` to `Delay::set_delay` call by call (including the panic), so these are statements about the code's
arithmetic; the first two `example`s are the inputs on which the real call misbehaves (recorded at the end of
DESIGN.md 6.8 as observations: no property quantifies over control calls).
-/
namespace RR.Blk

/-- raising the delay: the zeros still owed are REPLACED by the difference -/
theorem delaySet_raise (d : Nat) (st : DelaySt) (nd : Nat) (h : nd > d) :
    delaySet d st nd = some (nd, { st with currentDelay := nd - d }) := if_pos h

/-- lowering it (or keeping it): owed zeros are cancelled first, the rest of the difference is dropped from the input -/
theorem delaySet_lower (d : Nat) (st : DelaySt) (nd : Nat) (h : nd ≤ d) :
    delaySet d st nd =
      if d - nd < min st.currentDelay nd then none
      else some (nd, ⟨st.currentDelay - min st.currentDelay nd, (d - nd) - min st.currentDelay nd⟩) :=
  if_neg (Nat.not_lt.mpr h)

/-- `set_delay` panics exactly when the delay is lowered by less than the zeros it wants to cancel -/
theorem delaySet_none_iff (d : Nat) (st : DelaySt) (nd : Nat) :
    delaySet d st nd = none ↔ nd ≤ d ∧ d - nd < min st.currentDelay nd := by
  by_cases h : nd > d
  · rw [delaySet_raise d st nd h]
    exact ⟨nofun, fun h' => absurd h'.1 (Nat.not_le.mpr h)⟩
  · have hle := Nat.le_of_not_lt h
    rw [delaySet_lower d st nd hle]
    split
    next hlt => exact ⟨fun _ => ⟨hle, hlt⟩, fun _ => rfl⟩
    next hlt => exact ⟨nofun, fun h' => absurd h'.2 hlt⟩

theorem delaySet_net_lower (d : Nat) (st : DelaySt) (nd : Nat) (hle : nd ≤ d) (hs : st.skip = 0)
    (hok : ¬ d - nd < min st.currentDelay nd) :
    ∃ st', delaySet d st nd = some (nd, st') ∧ st'.net = st.net + ((nd : Int) - (d : Int)) := by
  refine ⟨_, (delaySet_lower d st nd hle).trans (if_neg hok), ?_⟩
  have hm : min st.currentDelay nd ≤ st.currentDelay := Nat.min_le_left _ _
  simp only [DelaySt.net, hs]
  omega

/-- raising the delay changes the net shift by exactly `nd − d` iff no start-up zeros are owed -/
theorem delaySet_net_raise (d : Nat) (st : DelaySt) (nd : Nat) (hgt : nd > d) :
    ∃ st', delaySet d st nd = some (nd, st') ∧
      (st'.net = st.net + ((nd : Int) - (d : Int)) ↔ st.currentDelay = 0) := by
  refine ⟨{ st with currentDelay := nd - d }, delaySet_raise d st nd hgt, ?_⟩
  simp only [DelaySt.net]
  omega

/-- `Delay::new(s, 5)`, then `set_delay(4)` before any sample: the real call panics (usize underflow) -/
example : delaySet 5 ⟨5, 0⟩ 4 = none := by decide

/-- `Delay::new(s, 5)`, then `set_delay(7)` before any sample: only 2 zeros stay owed instead of 7 -/
example : (delaySet 5 ⟨5, 0⟩ 7).map (fun p => (p.1, p.2.currentDelay, p.2.skip)) = some (7, 2, 0) := by decide

/-- the steady-state premises of `c10_set_delay` are met by a running block -/
example : (⟨0, 0⟩ : DelaySt).currentDelay = 0 ∧ (⟨0, 0⟩ : DelaySt).skip = 0 := by decide

end RR.Blk
