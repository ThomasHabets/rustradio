import RR.Proof.Resampler

/-!
Closed form of the reference resampler: output sample `j` is input sample
`⌊j·D/I⌋`, and `⌈n·I/D⌉` samples come out of `n` — stated without division:
`j` belongs to input `k` iff `k·I ≤ j·D < (k+1)·I`. Both are proved for any start counter in `(-D, 0]`, which is
what the induction over the input needs.
-/
namespace RR.Blk

/-- All copies of one sample: `n` of them, and the counter `c - n·D` ends in `(-D, 0]` (it stays there if it
was there). With the counter equal to `c₀ + k·I − E·D` after `k` samples and `E` outputs, that interval is the
whole closed form: `E = ⌈(c₀ + k·I)/D⌉`. -/
theorem copies_spec (D : Int) (hD : 0 < D) (s : Nat) (c : Int) :
    ∃ n : Nat, (copies D s c).2 = List.replicate n s ∧ (copies D s c).1 = c - n * D ∧
      c - n * D ≤ 0 ∧ (-D < c → -D < c - n * D) := by
  induction hb : c.toNat using Nat.strongRecOn generalizing c with
  | _ b ih =>
    by_cases hc : c > 0
    · rw [copies_pos D hD s c hc]
      obtain ⟨n, h1, h2, h3, h4⟩ := ih (c - D).toNat (by omega) (c - D) rfl
      have e : ((n + 1 : Nat) : Int) * D = n * D + D := by rw [Int.natCast_add, Int.add_mul]; simp
      exact ⟨n + 1, by simp [h1, List.replicate_succ], by rw [h2, e]; omega, by rw [e]; omega,
        fun _ => by rw [e]; have := h4 (by omega); omega⟩
    · rw [copies_nonpos D s c (Int.not_lt.mp hc)]
      exact ⟨0, rfl, by simp, by simp; omega, by simp⟩

theorem resRef_spec (I D : Int) (hI : 0 < I) (hD : 0 < D) (X : List Nat) :
    ∀ (c : Int), -D < c → c ≤ 0 →
      (∀ (j k : Nat), k < X.length → (k : Int) * I + c ≤ j * D → (j : Int) * D < (k + 1) * I + c →
        (resRef I D c X)[j]? = X[k]?) ∧
      (X.length : Int) * I + c ≤ (resRef I D c X).length * D ∧
      ((resRef I D c X).length : Int) * D < X.length * I + c + D := by
  induction X with
  | nil => intro c h1 h2; exact ⟨fun j k hk => by simp at hk, by simp [resRef]; omega⟩
  | cons s rest ih =>
    intro c hc1 hc2
    obtain ⟨n, e1, e2, e3, e4⟩ := copies_spec D hD s (c + I)
    obtain ⟨gi, g1, g2⟩ := ih (c + I - n * D) (e4 (by omega)) e3
    rw [resRef_cons, e1, e2]
    refine ⟨fun j k hk h1 h2 => ?_, ?_⟩
    · have e4 := e4 (by omega)
      cases k with
      | zero =>
        -- `j·D < I + c ≤ n·D`
        have hjn : j < n := by
          have : (j : Int) * D < n * D := by simp at h2; omega
          exact Int.ofNat_lt.mp (Int.lt_of_mul_lt_mul_right this (Int.le_of_lt hD))
        rw [List.getElem?_append_left (by simpa using hjn)]
        simp [hjn]
      | succ k' =>
        -- `(n-1)·D < c + I ≤ j·D`
        have hk0 : 0 ≤ (k' : Int) * I := Int.mul_nonneg (Int.natCast_nonneg _) (Int.le_of_lt hI)
        have ek : ((k' + 1 : Nat) : Int) * I = k' * I + I := by rw [Int.natCast_add, Int.add_mul]; simp
        rw [ek] at h1
        have hnj : n ≤ j := by
          have : ((n : Int) - 1) * D < j * D := by rw [Int.sub_mul]; omega
          have := Int.lt_of_mul_lt_mul_right this (Int.le_of_lt hD)
          omega
        rw [List.getElem?_append_right (by simpa using hnj)]
        simp only [List.length_replicate, List.getElem?_cons_succ]
        have ej : ((j - n : Nat) : Int) * D = j * D - n * D := by rw [Int.ofNat_sub hnj, Int.sub_mul]
        apply gi (j - n) k' (by simpa using hk)
        · rw [ej]; omega
        · rw [Int.add_mul, ek] at h2; rw [ej, Int.add_mul]; omega
    · simp only [List.length_append, List.length_replicate, List.length_cons]
      rw [Int.natCast_add, Int.natCast_add, Int.add_mul, Int.add_mul]
      simp only [Int.natCast_one, Int.one_mul]
      omega

end RR.Blk
