import RR.Proof.Source

/-!
FileSource for every consumption schedule: whatever free space each call finds
and however the buffered reader cuts its reads, the cumulative output is whole
repetitions of the file's whole samples followed by a prefix of them; a call
answers `EOF` exactly when it leaves the repeat counter done, and then all `n`
repetitions are out. The bytes of one round are followed through `fs_chunk`.
-/
namespace RR.Src
open RR RR.Blk

/-- the analogue of `List.take_add`: `q + k` samples are `q` samples, then `k` from the bytes behind them -/
theorem samplesOf_add (size k : Nat) : ∀ (q : Nat) (a : List Nat), q * size ≤ a.length →
    samplesOf size (q + k) a = samplesOf size q a ++ samplesOf size k (a.drop (q * size))
  | 0, a, _ => by simp [samplesOf]
  | q + 1, a, h => by
    rw [Nat.add_mul, Nat.one_mul] at h
    have hn : ¬ a.length < size := by omega
    rw [Nat.add_right_comm]
    simp only [samplesOf, hn, if_false, List.cons_append]
    rw [samplesOf_add size k q (a.drop size) (by simp; omega), List.drop_drop, Nat.add_mul, Nat.one_mul,
      Nat.add_comm]

/-- bytes behind the `k` samples asked for do not matter -/
theorem samplesOf_take (size : Nat) : ∀ (k : Nat) (a : List Nat) (m : Nat), k * size ≤ m →
    samplesOf size k (a.take m) = samplesOf size k a
  | 0, _, _, _ => by simp [samplesOf]
  | k + 1, a, m, h => by
    rw [Nat.add_mul, Nat.one_mul] at h
    have hl : min m a.length < size ↔ a.length < size := by omega
    simp only [samplesOf]
    rw [List.take_take, Nat.min_eq_left (by omega), List.drop_take,
      samplesOf_take size k _ _ (by omega), List.length_take]
    simp only [hl]

theorem samplesOf_length (size : Nat) : ∀ (k : Nat) (a : List Nat), k * size ≤ a.length →
    (samplesOf size k a).length = k
  | 0, _, _ => by simp [samplesOf]
  | k + 1, a, h => by
    rw [Nat.add_mul, Nat.one_mul] at h
    have hn : ¬ a.length < size := by omega
    simp only [samplesOf, hn, if_false, List.length_cons]
    rw [samplesOf_length size k (a.drop size) (by simp; omega)]

theorem bufRead_spec (rb k rem : Nat) (hk : 0 < k) (hrb : rb ≤ rem) :
    (bufRead rb k rem).1 ≤ k ∧ (bufRead rb k rem).1 ≤ rem ∧
    (bufRead rb k rem).2 + (bufRead rb k rem).1 ≤ rem ∧
    ((bufRead rb k rem).1 = 0 ↔ rem = 0) := by
  unfold bufRead bufCap
  split
  · split
    · simp only []; omega
    · simp only []; omega
  · simp only []; omega

theorem fsFinish_spec (st : FsSt) (size f : Nat) :
    ∃ o, fsFinish st size ⟨[], [⟨f, true⟩]⟩ = ({ st with buf := st.buf.drop (st.buf.length / size * size) }, o) ∧
      (o.produced.getD 0 ⟨[], []⟩).samples = samplesOf size (st.buf.length / size) st.buf ∧
      o.verdict ≠ .eof ∧ o.verdict ≠ .panic := by
  unfold fsFinish
  simp only []
  split
  · rename_i h
    have : samplesOf size (st.buf.length / size) st.buf = [] := by simpa [fsEmit] using h
    exact ⟨_, rfl, by rw [(noOut_nothing _ _).2, this], by simp, by simp⟩
  · exact ⟨_, rfl, rfl, by simp, by simp⟩

/-- `nn` more bytes behind a partial sample: what stays buffered and what the samples are -/
theorem fs_chunk (file : List Nat) (size pos nn : Nat) (hs : 0 < size) (hle : pos + nn ≤ file.length)
    (buf : List Nat) (hbuf : buf = (file.drop (pos / size * size)).take (pos % size))
    (d : List Nat) (hd : d = buf ++ (file.drop pos).take nn) :
    d.drop (d.length / size * size) = (file.drop ((pos + nn) / size * size)).take ((pos + nn) % size) ∧
    samplesOf size ((pos + nn) / size) file =
      samplesOf size (pos / size) file ++ samplesOf size (d.length / size) d := by
  have hq : pos = pos / size * size + pos % size := (Nat.div_add_mod' pos size).symm
  generalize pos / size = q at hq hbuf
  generalize pos % size = rm at hq hbuf
  subst hq
  -- `d` is the `rm + nn` bytes from the last sample boundary on
  have hd' : d = (file.drop (q * size)).take (rm + nn) := by
    rw [hd, hbuf, List.take_add, List.drop_drop]
  have hdl : d.length = rm + nn := by
    rw [hd', List.length_take, List.length_drop]; exact Nat.min_eq_left (by omega)
  have hq' : (q * size + rm + nn) / size = q + (rm + nn) / size := by
    rw [Nat.add_assoc, Nat.mul_comm, Nat.mul_add_div hs]
  have hr' : (q * size + rm + nn) % size = rm + nn - (rm + nn) / size * size := by
    rw [Nat.add_assoc, Nat.mul_comm, Nat.mul_add_mod, Nat.mod_eq_sub_div_mul]
  rw [hq', hr', hdl, hd']
  constructor
  · rw [List.drop_take, List.drop_drop, Nat.add_mul]
  · rw [samplesOf_take _ _ _ _ (Nat.div_mul_le_self _ _)]
    exact samplesOf_add _ _ _ _ (by omega)

/-- One call from a state with no whole sample buffered, any view: the one place where `fsWork` is opened. -/
theorem fsWork_one (file : List Nat) (size : Nat) (st : FsSt) (v : View) (hb : st.buf.length / size = 0) :
    fsWork file size st v =
      if st.rep.done = true then (st, noOut v .eof)
      else if (out0 v).free = 0 then (st, noOut v (.waitOut 0 1))
      else
        let r := bufRead st.rb ((out0 v).free * size) (file.length - st.pos)
        if r.1 = 0 then
          match st.rep.again with
          | none => (st, noOut v .panic)
          | some (rep', more) =>
            if more then (⟨0, 0, [], rep'⟩, noOut v .again) else ({ st with rep := rep' }, noOut v .eof)
        else fsFinish { st with pos := st.pos + r.1, rb := r.2, buf := st.buf ++ (file.drop st.pos).take r.1 } size v := by
  simp only [fsWork, hb, beq_iff_eq, Nat.sub_zero, Nat.pos_iff_ne_zero]
  by_cases hf : (out0 v).free = 0
  · rw [if_pos hf, if_pos hf]
  · rw [if_neg hf, if_neg hf, if_pos hf]; rfl

theorem fs_step (file : List Nat) (size n : Nat) (hs : 0 < size) (hn : n < 2 ^ 64) (st : FsSt) (f : Nat)
    (hg : FsGood file size n st) :
    RepStep (FsGood file size n) (fsEmitted file size n) FsSt.rep st (fsWork file size st ⟨[], [⟨f, true⟩]⟩) := by
  show RepStep _ (fun s : FsSt => repEmitted (fileSamples file size) n s.rep (samplesOf size (s.pos / size) file)) _ _ _
  obtain ⟨m, hm, hsum, hpos, hrb, hbuf⟩ := id hg
  have hhave : st.buf.length / size = 0 :=
    Nat.div_eq_of_lt (hbuf ▸ Nat.lt_of_le_of_lt (List.length_take_le ..) (Nat.mod_lt _ hs))
  cases hdn : st.rep.done
  · rw [fsWork_one _ _ _ _ hhave, out0_cons, if_neg (by simp [hdn])]
    by_cases hf : f = 0
    · rw [if_pos hf]; exact .idle hg _ (by simp [hdn]) nofun
    rw [if_neg hf]
    dsimp only
    obtain ⟨hnk, hnrem, hrbrem, hzero⟩ :=
      bufRead_spec st.rb (f * size) (file.length - st.pos) (Nat.mul_pos (Nat.pos_of_ne_zero hf) hs) hrb
    generalize bufRead st.rb (f * size) (file.length - st.pos) = br at hnk hnrem hrbrem hzero ⊢
    obtain ⟨nn, rb'⟩ := br
    by_cases hn0 : nn = 0
    · -- end of the file: the round is complete, nothing is emitted
      have hS : samplesOf size (st.pos / size) file = fileSamples file size := by
        rw [show st.pos = file.length by have := hzero.mp hn0; omega]; rfl
      obtain ⟨x', ha, ⟨m', hm', hsum'⟩, he⟩ := again_spec hn ⟨m, hm, hsum⟩ hdn
      rw [if_pos hn0, ha]
      cases hx : x'.done <;> simp only [Bool.not_false, Bool.not_true, Bool.false_eq_true, if_true, if_false]
      · exact .run hdn ⟨m', hm', hsum', Nat.zero_le _, Nat.zero_le _, by simp⟩
          (by rw [(noOut_nothing _ _).2, List.append_nil, hS]; exact he _ _ fun _ => by simp [samplesOf])
          (by simp [hx]) nofun
      · exact .run hdn ⟨m', hm', hsum', hpos, hrb, hbuf⟩
          (by rw [(noOut_nothing _ _).2, List.append_nil, hS]; exact he _ _ fun h => by simp [hx] at h)
          (by simp [hx]) nofun
    · -- `nn > 0` bytes arrive
      obtain ⟨o, hfin, hout, hneof, hnpanic⟩ :=
        fsFinish_spec ⟨st.pos + nn, rb', st.buf ++ (file.drop st.pos).take nn, st.rep⟩ size f
      obtain ⟨hbuf', hsplit⟩ := fs_chunk file size st.pos nn hs (by omega) st.buf hbuf _ rfl
      rw [if_neg hn0, hfin]
      exact .run hdn
        ⟨m, hm, hsum, by show st.pos + nn ≤ _; omega, by show rb' ≤ file.length - (st.pos + nn); omega, hbuf'⟩
        (by rw [hout]; exact (congrArg _ hsplit).trans (repEmitted_append hdn ..))
        ⟨(absurd · hneof), fun h => by simp [hdn] at h⟩ hnpanic
  · rw [fsWork_one _ _ _ _ hhave, if_pos hdn]; exact .idle hg _ (by simp [hdn]) nofun

end RR.Src
