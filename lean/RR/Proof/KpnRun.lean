import RR.Proof.Kpn

/-!
The operational layer under `Kpn.quiescent_is_reference` (C05, C06): a graph
state is, for every stream, the history committed so far and, for every block,
how much of each input it has consumed. A *step* lets any one block consume
more of what is available and extend its outputs, which stay a prefix of its
history function of what it has consumed (that is what the per-block theorems
of C08 say a sequence of `work()` calls does). For EVERY sequence of such steps
— any interleaving, any amounts, any number of steps — each block's outputs
stay such a prefix (`Inv`); and a state in which everything has been consumed
and emitted is the sequential reference execution.
-/
namespace RR.Kpn

theorem base_mono (nodes : List Node) (a b : Nat) (h : a ≤ b) : base nodes a ≤ base nodes b := by
  unfold base
  obtain ⟨d, rfl⟩ := Nat.exists_eq_add_of_le h
  rw [List.take_add, List.map_append, List.sum_append]
  omega

theorem base_succ (nodes : List Node) (m : Nat) (hm : m < nodes.length) :
    base nodes (m + 1) = base nodes m + nodes[m].nout := by
  unfold base
  rw [List.take_add_one, List.getElem?_eq_getElem hm]
  simp only [Option.toList_some, List.map_append, List.map_cons, List.map_nil, List.sum_append, List.sum_cons,
    List.sum_nil, Nat.add_zero]

theorem base_add_le (nodes : List Node) (m k : Nat) (hm : m < nodes.length) (h : m < k) :
    base nodes m + nodes[m].nout ≤ base nodes k :=
  base_succ nodes m hm ▸ base_mono nodes (m + 1) k h

theorem base_disjoint (nodes : List Node) (m idx : Nat) (hm : m < nodes.length) (hidx : idx < nodes.length)
    (hne : m ≠ idx) (t : Nat) (h1 : base nodes m ≤ t) (h2 : t < base nodes m + nodes[m].nout) :
    t < base nodes idx ∨ base nodes idx + nodes[idx].nout ≤ t :=
  (Nat.lt_or_gt_of_ne hne).imp (fun h => Nat.lt_of_lt_of_le h2 (base_add_le nodes m idx hm h))
    fun h => Nat.le_trans (base_add_le nodes idx m hidx h) h1

theorem consumedOf_stable (n : Node) (h h' : List (List Nat)) (cs : List Nat)
    (hgrow : ∀ t, ∃ ext, h'.getD t [] = h.getD t [] ++ ext)
    (hav : ∀ k, k < n.ins.length → cs.getD k 0 ≤ (h.getD (n.ins.getD k 0) []).length) :
    consumedOf n h' cs = consumedOf n h cs := by
  unfold consumedOf
  apply List.map_congr_left
  intro k hk
  simp only [List.mem_range] at hk
  obtain ⟨ext, he⟩ := hgrow (n.ins.getD k 0)
  rw [he, List.take_append_of_le_length (hav k hk)]

theorem step_inv (nodes : List Node) (idx : Nat) (s s' : GState) (hinv : Inv nodes s) (st : Step nodes idx s s') :
    Inv nodes s' := by
  obtain ⟨hlen, hall⟩ := hinv
  refine ⟨by rw [st.len, hlen], fun m hm => ?_⟩
  obtain ⟨hw, hlaw, hcnt⟩ := hall m hm
  -- what `m` has consumed after the step was there before it, so it reads the same in both states
  have hav : ∀ k, k < nodes[m].ins.length →
      (s'.cs.getD m []).getD k 0 ≤ (s.h.getD (nodes[m].ins.getD k 0) []).length := by
    by_cases hmi : m = idx
    · subst hmi; exact st.cs_avail
    · rw [st.cs_other m hmi]; exact hcnt
  refine ⟨hw, fun j hj => ?_, fun k hk => ?_⟩
  · rw [consumedOf_stable _ s.h s'.h _ st.grow hav]
    by_cases hmi : m = idx
    · subst hmi; exact st.outs j hj
    · -- another block's outputs are untouched
      rw [st.others _ (base_disjoint nodes m idx hm st.hidx hmi _ (Nat.le_add_right _ j) (by omega)),
        st.cs_other m hmi]
      exact hlaw j hj
  · obtain ⟨ext, he⟩ := st.grow (nodes[m].ins.getD k 0)
    rw [he, List.length_append]
    exact Nat.le_trans (hav k hk) (Nat.le_add_right _ _)

theorem run_inv (nodes : List Node) (s s' : GState) (hinv : Inv nodes s) (r : Run nodes s s') : Inv nodes s' := by
  induction r with
  | refl => exact hinv
  | step s s1 s2 idx st _ ih => exact ih (step_inv nodes idx s s1 hinv st)

theorem consumedOf_all (n : Node) (h : List (List Nat)) (cs : List Nat)
    (hall : ∀ k, k < n.ins.length → cs.getD k 0 = (h.getD (n.ins.getD k 0) []).length) :
    consumedOf n h cs = inputsOf n h := by
  rw [consumedOf, inputsOf, ← map_range_getD (fun i => h.getD i []) n.ins 0]
  exact List.map_congr_left fun k hk => by rw [hall k (List.mem_range.mp hk), List.take_length]

/-- `Quiescent` with the stream ids written as `base`, the way `Inv` has them: the nodes from the `k`-th on
are quiescent from stream `base nodes k` on. -/
theorem quiescent_of_base (nodes : List Node) (h : List (List Nat)) (hlen : h.length = base nodes nodes.length)
    (hn : ∀ m, (hm : m < nodes.length) → (∀ i ∈ nodes[m].ins, i < base nodes m) ∧
      ∀ j, j < nodes[m].nout → h.getD (base nodes m + j) [] = (nodes[m].F (inputsOf nodes[m] h)).getD j [])
    (k : Nat) (hk : k ≤ nodes.length) : Quiescent (nodes.drop k) (base nodes k) h := by
  rcases Nat.eq_or_lt_of_le hk with rfl | hk
  · rw [List.drop_length]
    exact hlen
  · rw [List.drop_eq_getElem_cons hk]
    exact ⟨(hn k hk).1, (hn k hk).2, base_succ nodes k hk ▸ quiescent_of_base nodes h hlen hn (k + 1) hk⟩
termination_by nodes.length - k

/-- Of `Inv` only the number of streams and the wiring are needed here. -/
theorem terminal_is_reference (nodes : List Node) (s : GState) (hlen : s.h.length = base nodes nodes.length)
    (hw : ∀ m, (hm : m < nodes.length) → ∀ i ∈ nodes[m].ins, i < base nodes m) (hall : AllConsumed nodes s) :
    s.h = eval nodes [] := by
  refine quiescent_is_reference nodes s.h
    (quiescent_of_base nodes s.h hlen (fun m hm => ⟨hw m hm, fun j hj => ?_⟩) 0 (Nat.zero_le _))
  rw [(hall m hm).2 j hj, consumedOf_all _ _ _ (hall m hm).1]

theorem inv_init (nodes : List Node) (hw : ∀ m, (hm : m < nodes.length) → ∀ i ∈ nodes[m].ins, i < base nodes m) :
    Inv nodes ⟨List.replicate (base nodes nodes.length) [], []⟩ := by
  refine ⟨by simp, fun m hm => ⟨hw m hm, fun j _ => ?_, fun k _ => by simp⟩⟩
  rw [getD_replicate]
  exact ⟨_, (List.nil_append _).symm⟩

theorem run_terminal (nodes : List Node) (hw : ∀ m, (hm : m < nodes.length) → ∀ i ∈ nodes[m].ins, i < base nodes m)
    (s : GState) (r : Run nodes ⟨List.replicate (base nodes nodes.length) [], []⟩ s) (hall : AllConsumed nodes s) :
    s.h = eval nodes [] :=
  terminal_is_reference nodes s (run_inv nodes _ s (inv_init nodes hw) r).1 hw hall

theorem stepFn_cs (nodes : List Node) (idx : Nat) (cs' : List Nat) (s : GState) (hidx : idx < nodes.length)
    (m : Nat) : (stepFn nodes idx cs' s).cs.getD m [] = if m = idx then cs' else s.cs.getD m [] := by
  simp only [stepFn, List.getElem?_eq_getElem hidx]
  apply getD_map_range_of
  intro hle
  rw [if_neg (by omega), getD_of_le _ (by omega)]

theorem stepFn_h (nodes : List Node) (idx : Nat) (cs' : List Nat) (s : GState) (hidx : idx < nodes.length)
    (hb : base nodes idx + nodes[idx].nout ≤ s.h.length) (t : Nat) :
    (stepFn nodes idx cs' s).h.getD t [] =
      if base nodes idx ≤ t ∧ t < base nodes idx + nodes[idx].nout then
        (nodes[idx].F (consumedOf nodes[idx] s.h cs')).getD (t - base nodes idx) [] else s.h.getD t [] := by
  simp only [stepFn, List.getElem?_eq_getElem hidx]
  apply getD_map_range_of
  intro hle
  rw [if_neg (by omega), getD_of_le _ hle]

theorem getD_map_range' (L : Nat) (f : Nat → List (Nat)) (t : Nat) (d : List Nat) (hd : d = []) :
    ((List.range L).map f).getD t d = if t < L then f t else [] := by
  subst hd
  split
  · next h => exact getD_map_range f [] h
  · next h => exact getD_of_le [] (by simpa using h)

end RR.Kpn
