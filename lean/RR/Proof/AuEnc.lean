import RR.Spec.Formats
import RR.Proof.Drive
import RR.Proof.Au

/-!
`AuEncode` as a block, for every schedule of read windows and output space: the
bytes written so far are a prefix of `Au.encode` (header, then two big-endian
bytes per consumed sample); no sample is consumed before the header is out.
-/
namespace RR.Au
open RR RR.Blk

theorem encode_eq (bitrate : Nat) (q : Nat → Nat) (xs : List Nat) : encode bitrate q xs = header bitrate ++ body q xs :=
  rfl

theorem body_append (q : Nat → Nat) (a b : List Nat) : body q (a ++ b) = body q a ++ body q b := by
  simp [body]

theorem body_length (q : Nat → Nat) (l : List Nat) : (body q l).length = 2 * l.length := by
  induction l with
  | nil => rfl
  | cons x xs ih =>
    simp only [body, List.flatMap_cons, List.length_append, List.length_cons] at ih ⊢
    have : (beBytes 2 (q x)).length = 2 := beBytes_length 2 (q x)
    omega

/-- invariant: the header is what is out of it followed by what the state still holds; samples only once
the header is complete -/
def EncInv (bitrate : Nat) (q : Nat → Nat) (X : List Nat) (st : EncSt) (c : Nat) (out : List Nat) : Prop :=
  ∃ pre, header bitrate = pre ++ st.getD [] ∧ (st ≠ none → c = 0) ∧ c ≤ X.length ∧
    out = pre ++ body q (X.take c)

theorem enc_init (bitrate : Nat) (q : Nat → Nat) (X : List Nat) :
    EncInv bitrate q X (encBlock bitrate q).init 0 [] :=
  ⟨[], rfl, fun _ => rfl, Nat.zero_le _, rfl⟩

theorem enc_step (bitrate : Nat) (q : Nat → Nat) (X : List Nat) (st : EncSt) (c : Nat) (out : List Nat) (a f : Nat)
    (h : EncInv bitrate q X st c out) :
    let w := (X.drop c).take a
    let r := encWork q st ⟨[⟨w, [], true⟩], [⟨f, true⟩]⟩
    EncInv bitrate q X r.1 (c + r.2.consumed.getD 0 0) (out ++ (r.2.produced.getD 0 ⟨[], []⟩).samples) := by
  intro w
  have keep : EncInv bitrate q X st (c + 0) (out ++ []) := (List.append_nil out).symm ▸ h
  obtain ⟨pre, hh, hc0, hcX, hout⟩ := h
  fun_cases encWork q st ⟨[⟨w, [], true⟩], [⟨f, true⟩]⟩ with
  | case1 => exact keep
  | case2 _ h _ n rest =>
    -- `n` of the header bytes `h` that were left go out; no sample has been read yet
    show EncInv bitrate q X (if rest.isEmpty then none else some rest) (c + 0) (out ++ h.take n)
    have hst : (if rest.isEmpty then none else some rest : EncSt).getD [] = rest := by
      split
      next he => exact (List.isEmpty_iff.1 he).symm
      next => rfl
    refine ⟨pre ++ h.take n, ?_, fun _ => hc0 nofun, hcX, ?_⟩
    · rw [hst, List.append_assoc, List.take_append_drop]; exact hh
    · rw [hout, hc0 nofun]; simp only [Nat.add_zero, List.take_zero, body, List.flatMap_nil, List.append_nil]
  | case3 => exact keep
  | case4 => exact keep
  | case5 _ i _ n =>
    show EncInv bitrate q X none (c + n) (out ++ body q (w.take n))
    have hn : n ≤ w.length := Nat.min_le_left _ _
    have hwl : w.length ≤ X.length - c := window_length_le X c a
    refine ⟨pre, hh, nofun, by omega, ?_⟩
    rw [hout, List.append_assoc, take_add_window X c a n hn, body_append]

theorem enc_drive (bitrate : Nat) (q : Nat → Nat) (X : List Nat) (sched : List (Nat × Nat)) :
    ∀ st c out, EncInv bitrate q X st c out →
      let r := drive1 (encBlock bitrate q) X st c out sched
      EncInv bitrate q X r.1 r.2.1 r.2.2 :=
  drive1_inv (encBlock bitrate q) X (EncInv bitrate q X) (enc_step bitrate q X) sched

end RR.Au
