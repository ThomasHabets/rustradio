import RR.Spec.Kpn
import RR.Proof.GetD

/-!
Kahn-style determinism for a graph of deterministic stream functions (C05,
C06 result part): streams are created by block constructors from existing read
ends, so the graph is a DAG and its streams can be numbered in creation order.
A state in which every block's output histories equal its history function
applied to its input histories (what C08's chunk-independence theorems give once
each block has consumed all it can) is unique: it is the sequential reference
evaluation — whatever interleaving, wait timeouts, stream sizes or add order
produced it.
-/
namespace RR.Kpn

theorem inputsOf_take (n : Node) (h : List (List Nat)) (b : Nat) (hin : ∀ i ∈ n.ins, i < b) :
    inputsOf n (h.take b) = inputsOf n h :=
  List.map_congr_left fun i hi => by rw [getD_take, if_pos (hin i hi)]

/-- A quiescent history is the reference evaluation continued from its first `b` streams (which it has):
those determine the next block's outputs, hence the first `b + n.nout` streams, and so on. -/
theorem eval_take (nodes : List Node) (b : Nat) (h : List (List Nat)) (q : Quiescent nodes b h) :
    b ≤ h.length ∧ eval nodes (h.take b) = h := by
  induction nodes generalizing b with
  | nil => exact ⟨Nat.le_of_eq q.symm, by rw [eval, ← q, List.take_length]⟩
  | cons n rest ih =>
    obtain ⟨hin, hout, hq⟩ := q
    obtain ⟨hlen, ih⟩ := ih _ hq
    have hnext : outsOf n (h.take b) = (h.drop b).take n.nout := by
      rw [outsOf, inputsOf_take n h b hin, ← List.map_id ((h.drop b).take n.nout), ← map_range_getD id _ [],
        List.length_take, List.length_drop, Nat.min_eq_left (by omega)]
      exact List.map_congr_left fun j hj => by
        rw [id, getD_take, if_pos (List.mem_range.mp hj), getD_drop, hout j (List.mem_range.mp hj)]
    rw [eval, hnext, ← List.take_add]
    exact ⟨by omega, ih⟩

theorem quiescent_is_reference (nodes : List Node) (h : List (List Nat)) (q : Quiescent nodes 0 h) :
    h = eval nodes [] := (eval_take nodes 0 h q).2.symm

end RR.Kpn
