import RR.Spec.Design
import Mathlib.Algebra.BigOperators.Ring.Finset
import Mathlib.Analysis.SpecialFunctions.Complex.Arg
import Mathlib.Tactic.Ring

/-!
Filter design (`low_pass`, `hilbert`, the windows) in exact arithmetic: the expressions of src/fir.rs and
src/window.rs written over a field / ℝ (the float code computes them with rounding; the harness checks the
float results against these facts). The FM demodulator identities of C11 are proved there; the complex `arg`
they need is imported here.
-/
namespace RR.Dsp.Design
open Finset

section LowPass
variable {K : Type} [Field K]

theorem raw_symm (core : ℤ → K) (win : ℕ → K) (m : ℕ) (hcore : ∀ n, core (-n) = core n)
    (hwin : ∀ i, i ≤ 2 * m → win (2 * m - i) = win i) (i : ℕ) (hi : i ≤ 2 * m) :
    raw core win m (2 * m - i) = raw core win m i := by
  unfold raw
  rw [hwin i hi, ← hcore ((i : ℤ) - m)]
  congr 2
  push_cast [Nat.cast_sub hi]
  ring

/-- A sequence of odd length that reads the same from both ends sums to its centre plus twice its upper half. -/
theorem sum_symm (f : ℕ → K) (m : ℕ) (hf : ∀ i, i ≤ 2 * m → f (2 * m - i) = f i) :
    ∑ i ∈ range (2 * m + 1), f i = f m + 2 * ∑ n ∈ range m, f (n + 1 + m) := by
  -- the entries below the centre, read downwards, are those above it
  have hl : ∀ j ∈ range m, f (m - 1 - j) = f (j + 1 + m) := fun j hj => by
    have := mem_range.mp hj
    rw [← hf (m - 1 - j) (by omega)]
    congr 1
    omega
  rw [show 2 * m + 1 = m + 1 + m by omega, sum_range_add, sum_range_succ, ← sum_range_reflect, sum_congr rfl hl]
  simp only [fun x => show m + 1 + x = x + 1 + m by omega]
  ring

/-- An even core under a symmetric window: the taps are symmetric about the centre and sum to one (unit DC gain). -/
theorem lowPass_symm_dc (core : ℤ → K) (win : ℕ → K) (m : ℕ) (hcore : ∀ n, core (-n) = core n)
    (hwin : ∀ i, i ≤ 2 * m → win (2 * m - i) = win i) (hf : fmax core win m ≠ 0) :
    (∀ i, i ≤ 2 * m → lowPass core win m (2 * m - i) = lowPass core win m i) ∧
      ∑ i ∈ range (2 * m + 1), lowPass core win m i = 1 := by
  unfold lowPass
  refine ⟨fun i hi => by rw [raw_symm core win m hcore hwin i hi], ?_⟩
  rw [← Finset.sum_mul, sum_symm _ m (raw_symm core win m hcore hwin), ← fmax, mul_one_div_cancel hf]

end LowPass

theorem sincCore_even (fwt0 : ℝ) (n : ℤ) : sincCore fwt0 (-n) = sincCore fwt0 n := by
  -- the test `-n = 0` is `n = 0`; otherwise numerator and denominator both change sign
  simp only [sincCore, neg_eq_zero, Int.cast_neg, neg_mul, Real.sin_neg, neg_div_neg_eq]

/-- a cosine term of a window, `cos(c·π·n / (ntaps-1))` with `c` an even number, is symmetric about the centre -/
theorem cos_reflect (c : ℝ) (k : ℕ) (hc : c = 2 * k) (m i : ℕ) (hm : 0 < m) (hi : i ≤ 2 * m) :
    Real.cos (c * Real.pi * ((2 * m - i : ℕ) : ℝ) / ((2 * m : ℕ) : ℝ)) =
      Real.cos (c * Real.pi * (i : ℝ) / ((2 * m : ℕ) : ℝ)) := by
  have hne : ((2 * m : ℕ) : ℝ) ≠ 0 := Nat.cast_ne_zero.mpr (by omega)
  -- `c·π·(2m-i)/(2m) = k·2π - c·π·i/(2m)`
  rw [← Real.cos_nat_mul_two_pi_sub _ k, Nat.cast_sub hi, hc, mul_sub, sub_div, mul_div_cancel_right₀ _ hne]
  congr 1
  ring

theorem hamming_symm (a0 : ℝ) (m : ℕ) (hm : 0 < m) (i : ℕ) (hi : i ≤ 2 * m) :
    hammingWin a0 m (2 * m - i) = hammingWin a0 m i := by
  unfold hammingWin
  rw [cos_reflect 2 1 (by norm_num) m i hm hi]

theorem blackman_symm (a0 a1 a2 : ℝ) (m : ℕ) (hm : 0 < m) (i : ℕ) (hi : i ≤ 2 * m) :
    blackmanWin a0 a1 a2 m (2 * m - i) = blackmanWin a0 a1 a2 m i := by
  unfold blackmanWin
  rw [cos_reflect 2 1 (by norm_num) m i hm hi, cos_reflect 4 2 (by norm_num) m i hm hi]

theorem blackmanHarris_symm (a0 a1 a2 a3 : ℝ) (m : ℕ) (hm : 0 < m) (i : ℕ) (hi : i ≤ 2 * m) :
    blackmanHarrisWin a0 a1 a2 a3 m (2 * m - i) = blackmanHarrisWin a0 a1 a2 a3 m i := by
  unfold blackmanHarrisWin
  rw [cos_reflect 2 1 (by norm_num) m i hm hi, cos_reflect 4 2 (by norm_num) m i hm hi,
    cos_reflect 6 3 (by norm_num) m i hm hi]

section Hilbert
variable {K : Type} [Field K]

/-- `i` above the centre: `1/i` times the window on odd offsets (the centre tap, `i = 0`, included) -/
theorem hilbertRaw_above (win : ℕ → K) (mid i : ℕ) :
    hilbertRaw win mid (mid + i) = if i % 2 = 1 then 1 / (i : K) * win (mid + i) else 0 := by
  unfold hilbertRaw
  rcases i.eq_zero_or_pos with rfl | h
  · simp
  · rw [if_neg (by omega), if_pos (by omega), Nat.add_sub_cancel_left]

theorem hilbertRaw_below (win : ℕ → K) (mid i : ℕ) (hi : i ≤ mid) :
    hilbertRaw win mid (mid - i) = if i % 2 = 1 then -(1 / (i : K)) * win (mid - i) else 0 := by
  unfold hilbertRaw
  rcases i.eq_zero_or_pos with rfl | h
  · simp
  · rw [if_neg (by omega), if_neg (by omega), Nat.sub_sub_self hi]

end Hilbert

end RR.Dsp.Design
