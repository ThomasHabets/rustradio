import RR.Proof.DspFir
import RR.Proof.GetD

/-!
`Hilbert::work` for every schedule: with `Z` = `ntaps` zeros followed by the
(decoded) input, after `c` consumed samples the block has emitted, for every
`j < c`, the pair (`Z[j + ntaps/2]`, kernel(taps, `Z[j .. j+ntaps]`)) — the
delayed input next to the filter output — whatever the read windows and the
output space were; and every input tag arrives once, at the same index.
-/
namespace RR.Dsp
open RR RR.Blk

variable {α : Type}

/-- `Hilbert::work` in closed form: with a full history (`ntaps` samples) the `n == 0` branch (`.waitFunc`) is
unreachable, and with a total kernel so is the panic. -/
theorem hilbertWork_one (o : Ops α) (cd : Codec α) (pair : α → α → Nat) (k : List α → List α → α) (rt st : List α)
    (hh : st.length = rt.length) (w : List Nat) (ts : List Tag) (al : Bool) (f : Nat) (al' : Bool) :
    hilbertWork o cd pair (fun p q => some (k p q)) rt st ⟨[⟨w, ts, al⟩], [⟨f, al'⟩]⟩ =
      if w = [] then (st, ⟨[0], [⟨[], []⟩], .waitIn 0 1⟩)
      else if f = 0 then (st, ⟨[0], [⟨[], []⟩], .waitOut 0 1⟩)
      else
        let m := min w.length f
        let iv := st ++ (w.take m).map cd.dec
        ((iv.drop m).take rt.length,
         ⟨[m], [⟨(List.range m).map fun j => pair (iv.getD (j + rt.length / 2) o.zero) (k rt ((iv.drop j).take rt.length)),
                 ts.filter fun t => decide (t.pos < m)⟩], .again⟩) := by
  have mapM_some : ∀ (g : Nat → Nat) (l : List Nat), l.mapM (fun x => some (g x)) = some (l.map g) :=
    fun _ _ => List.mapM_pure
  simp only [hilbertWork, in0_cons, out0_cons, noOut_one, List.isEmpty_iff, beq_iff_eq, hh, Nat.add_sub_cancel_left,
    Option.map_some, mapM_some]
  split
  · rfl
  split
  · rfl
  next hw hf =>
  have : min w.length f ≠ 0 := by have := List.length_pos_iff.mpr hw; omega
  rw [if_neg this]

def HilInv (o : Ops α) (cd : Codec α) (pair : α → α → Nat) (k : List α → List α → α) (rt : List α) (X : List Nat)
    (st : List α) (c : Nat) (out : List Nat) : Prop :=
  st = ((hilZ o cd rt.length X).drop c).take rt.length ∧ out = (List.range c).map (hilOut o cd pair k rt X) ∧
    c ≤ X.length

theorem hilbert_init (o : Ops α) (cd : Codec α) (pair : α → α → Nat) (k : List α → List α → α) (taps : List α)
    (X : List Nat) : HilInv o cd pair k (firNew taps) X (List.replicate taps.length o.zero) 0 [] :=
  ⟨by simp [hilZ, firNew_length], by simp, Nat.zero_le _⟩

theorem hilbert_step (o : Ops α) (cd : Codec α) (pair : α → α → Nat) (k : List α → List α → α) (rt : List α)
    (X : List Nat) (st : List α) (c : Nat) (out : List Nat) (a f : Nat) (ts : List Tag)
    (h : HilInv o cd pair k rt X st c out) :
    let w := (X.drop c).take a
    TagStep (HilInv o cd pair k rt X) 0 id c out ts w.length
      (hilbertWork o cd pair (fun p q => some (k p q)) rt st ⟨[⟨w, ts, true⟩], [⟨f, true⟩]⟩) := by
  intro w
  have hidle := TagStep.idle h 0 id ts w.length
  obtain ⟨rfl, rfl, hc⟩ := h
  have hwl : w.length ≤ X.length - c := window_length_le X c a
  have hZlen : (hilZ o cd rt.length X).length = rt.length + X.length := by simp [hilZ]
  have hhist : (((hilZ o cd rt.length X).drop c).take rt.length).length = rt.length := by
    rw [List.length_take, List.length_drop]; omega
  rw [hilbertWork_one o cd pair k rt _ hhist]
  split
  · exact hidle _
  split
  · exact hidle _
  generalize hm : min w.length f = m
  have hmw : m ≤ w.length := hm ▸ Nat.min_le_left _ _
  -- the history and the samples taken are the next `ntaps + m` elements of `Z`
  have hiv : ((hilZ o cd rt.length X).drop c).take rt.length ++ (w.take m).map cd.dec =
      ((hilZ o cd rt.length X).drop c).take (rt.length + m) := by
    rw [List.take_add, List.drop_drop]
    have hz : (hilZ o cd rt.length X).drop (c + rt.length) = (X.drop c).map cd.dec := by
      show (List.replicate rt.length o.zero ++ X.map cd.dec).drop (c + rt.length) = _
      rw [List.drop_append, List.drop_eq_nil_of_le (by simp), List.nil_append, List.length_replicate,
        Nat.add_sub_cancel, List.map_drop]
    rw [hz, ← List.map_take, window_take X c a m hmw]
  simp only [TagStep, HilInv, hiv, List.getD_cons_zero]
  refine ⟨⟨?_, ?_, by omega⟩, hmw, .inr ⟨Nat.zero_le _, id, (map_mp_id _).symm, fun i _ => by simp⟩⟩
  · exact window_slice _ c _ m _ (by omega)
  · refine (congrArg (_ ++ ·) (List.map_congr_left fun i hi => ?_)).trans (range_add_map _ c m)
    have hi : i < m := List.mem_range.mp hi
    simp only [hilOut]
    congr 1
    · rw [getD_take, if_pos (by omega), getD_drop, Nat.add_assoc]
    · rw [window_slice _ c _ i _ (by omega)]

theorem hilbert_driveT (o : Ops α) (cd : Codec α) (pair : α → α → Nat) (k : List α → List α → α) (taps : List α)
    (X : List Nat) (T : List Tag) (sched : List (Nat × Nat)) :
    ∀ st c out ot, HilInv o cd pair k (firNew taps) X st c out → ot.Perm ((rng T 0 c).map (mp id)) →
      let r := driveT (hilbertBlock o cd pair (fun p q => some (k p q)) taps) X T st c out ot sched
      HilInv o cd pair k (firNew taps) X r.1 r.2.1 r.2.2.1 ∧ r.2.2.2.Perm ((rng T 0 r.2.1).map (mp id)) :=
  driveT_tags (hilbertBlock o cd pair (fun p q => some (k p q)) taps) X T 0 id (HilInv o cd pair k (firNew taps) X)
    (hilbert_step o cd pair k (firNew taps) X) sched

end RR.Dsp
