import RR.Spec.Dsp
import RR.Proof.Drive
import RR.Proof.GetD

/-!
`FirFilter` for every chunking, over ANY arithmetic (`Ops α`: floats included —
nothing here uses an algebraic law): output `m` of the stream is the fold of
`Fir::filter` over the `ntaps` input samples starting at `m * deci`.
-/
namespace RR.Dsp
open RR.Blk

variable {α : Type}

theorem zipWith_take_right {β γ : Type} (f : α → β → γ) :
    (l1 : List α) → (l2 : List β) → List.zipWith f l1 l2 = List.zipWith f (l1.take l2.length) l2
  | [], _ => by simp
  | _ :: _, [] => by simp
  | a :: l1, b :: l2 => by simp [zipWith_take_right f l1 l2]

theorem dot_take (o : Ops α) (rt inp : List α) : dot o rt inp = dot o rt (inp.take rt.length) := by
  unfold dot
  rw [zipWith_take_right]

theorem filterN_take (o : Ops α) (rt l : List α) (deci j m : Nat) (hd : 0 < deci) (h : j * deci + rt.length - 1 ≤ m) :
    filterN o rt (l.take m) deci j = filterN o rt l deci j := by
  unfold filterN
  apply List.map_congr_left
  intro i hi
  have := Nat.mul_le_mul_right deci (Nat.succ_le_of_lt (List.mem_range.mp hi))
  rw [Nat.succ_mul] at this
  rw [dot_take o rt ((l.take m).drop _), dot_take o rt (l.drop _), List.drop_take, List.take_take,
    Nat.min_eq_left (by omega)]

theorem firCount_bounds (nt deci len : Nat) (hd : 0 < deci) (hlen : nt + deci - 1 ≤ len) :
    0 < (len - nt + 1) / deci ∧ ∀ j ≤ (len - nt + 1) / deci, j * deci + nt - 1 ≤ len := by
  refine ⟨by rw [Nat.lt_iff_add_one_le, Nat.le_div_iff_mul_le hd]; omega, fun j hj => ?_⟩
  have hle : (len - nt + 1) / deci * deci ≤ len - nt + 1 := Nat.div_mul_le_self _ _
  have := Nat.mul_le_mul_right deci hj
  omega

theorem firNew_length (taps : List α) : (firNew taps).length = taps.length := List.length_reverse

/-- `FirFilter::work` in closed form: `j` outputs, as many as the window holds input for and the output has room for.
With `deci, ntaps > 0` none of its assertions can fire. -/
theorem firWork_one (o : Ops α) (cd : Codec α) (rt : List α) (deci : Nat) (hd : 0 < deci) (ht : 0 < rt.length)
    (st : Unit) (w : List Nat) (ts : List Tag) (al : Bool) (f : Nat) (al' : Bool) :
    firWork o cd rt deci st ⟨[⟨w, ts, al⟩], [⟨f, al'⟩]⟩ =
      if w.length < rt.length + deci - 1 then (st, ⟨[0], [⟨[], []⟩], .waitIn 0 (rt.length + deci - 1)⟩)
      else if f = 0 then (st, ⟨[0], [⟨[], []⟩], .waitOut 0 1⟩)
      else
        let j := min ((w.length - rt.length + 1) / deci) f
        (st, ⟨[j * deci],
          [⟨(filterN o rt (w.map cd.dec) deci j).map cd.enc,
            (ts.filter fun t => decide (t.pos < j * deci)).map fun t => { t with pos := t.pos / deci }⟩], .again⟩) := by
  -- `rw`, unlike `simp`, also rewrites the view inside the `Decidable` instances of the tests
  rw [firWork, in0_cons, out0_cons]
  simp only [noOut_one]
  -- the model's guard `deci = 0 ∨ ntaps = 0`
  rw [if_neg (by omega)]
  by_cases h1 : w.length < rt.length + deci - 1
  · rw [if_pos h1, if_pos h1]
  obtain ⟨hQ, hfit⟩ := firCount_bounds rt.length deci w.length hd (Nat.le_of_not_lt h1)
  have hn0 : 0 < deci * ((w.length - rt.length + 1) / deci) := Nat.mul_pos hd hQ
  have hneed := hfit _ (Nat.le_refl _)
  rw [Nat.mul_comm] at hneed
  -- `assert_ne!(n, 0)` by `hn0`, `assert!(input.len() >= need)` by `hneed`
  rw [if_neg h1, if_neg h1, if_neg (by omega), if_neg (by omega)]
  by_cases h2 : f = 0
  · rw [if_pos (by omega), if_pos h2]
  have hmin : min (deci * ((w.length - rt.length + 1) / deci)) (f * deci) =
      min ((w.length - rt.length + 1) / deci) f * deci := by
    rw [Nat.mul_comm deci, Nat.mul_min_mul_right]
  have hj : 0 < min ((w.length - rt.length + 1) / deci) f * deci := Nat.mul_pos (by omega) hd
  -- `out.len() < 1` is `f = 0`; the capped `n` is `j * deci`: `assert_eq!(n % deci, 0)`, and `assert_ne!(n, 0)` by `hj`
  rw [if_neg (by omega), if_neg h2, hmin, if_neg (by rw [Nat.mul_mod_left]; omega), Nat.mul_div_cancel _ hd,
    List.map_take, filterN_take _ _ _ _ _ _ hd]
  -- `filter_n_inplace` reads the first `need` samples only, which is all the `j` outputs look at
  omega

/-- after `q * deci` consumed samples the first `q` outputs are out -/
def FirInv (o : Ops α) (cd : Codec α) (rt : List α) (deci : Nat) (X : List Nat) (_ : Unit) (c : Nat) (out : List Nat) :
    Prop :=
  ∃ q, c = q * deci ∧ out = firSpec o cd rt deci X q

theorem fir_init (o : Ops α) (cd : Codec α) (rt : List α) (deci : Nat) (X : List Nat) : FirInv o cd rt deci X () 0 [] :=
  ⟨0, (Nat.zero_mul _).symm, rfl⟩

/-- One call, any tags in its view: output `q` stands at input `q * deci`, so a tag at window position `i` lands on
output `q + i / deci`. -/
theorem fir_step (o : Ops α) (cd : Codec α) (rt : List α) (deci : Nat) (hd : 0 < deci) (ht : 0 < rt.length)
    (X : List Nat) (st : Unit) (c : Nat) (out : List Nat) (a f : Nat) (ts : List Tag)
    (h : FirInv o cd rt deci X st c out) :
    let w := (X.drop c).take a
    TagStep (FirInv o cd rt deci X) 0 (· / deci) c out ts w.length
      (firWork o cd rt deci st ⟨[⟨w, ts, true⟩], [⟨f, true⟩]⟩) := by
  intro w
  have hidle := TagStep.idle h 0 (· / deci) ts w.length
  obtain ⟨q, rfl, rfl⟩ := h
  have hg : ∀ i, (firSpec o cd rt deci X q).length + i / deci = (q * deci + i) / deci := by
    intro i
    rw [Nat.add_comm (q * deci), Nat.add_mul_div_right _ _ hd, Nat.add_comm]
    simp [firSpec]
  rw [firWork_one o cd rt deci hd ht]
  split
  · exact hidle _
  split
  · exact hidle _
  next h1 _ =>
  have hfit := (firCount_bounds rt.length deci w.length hd (Nat.le_of_not_lt h1)).2 _ (Nat.min_le_left _ f)
  generalize min ((w.length - rt.length + 1) / deci) f = j at hfit
  refine ⟨⟨q + j, (Nat.add_mul _ _ _).symm, ?_⟩, by simp only [List.getD_cons_zero]; omega,
    .inr ⟨Nat.zero_le _, (· / deci), rfl, fun i _ => hg i⟩⟩
  -- the window is a prefix of the rest of the stream, long enough for all `j` outputs
  have hwa : w.length ≤ a := List.length_take_le _ _
  simp only [List.getD_cons_zero, w, List.map_take, List.map_drop]
  rw [filterN_take _ _ _ _ _ _ hd (by omega)]
  simp only [filterN, List.drop_drop, List.map_map, firSpec, ← range_add_map _ q j, Nat.add_mul]
  rfl

theorem fir_drive (o : Ops α) (cd : Codec α) (taps : List α) (deci : Nat) (hd : 0 < deci) (ht : 0 < taps.length)
    (X : List Nat) (sched : List (Nat × Nat)) :
    ∀ st c out, FirInv o cd (firNew taps) deci X st c out →
      let r := drive1 (firBlock o cd taps deci) X st c out sched
      FirInv o cd (firNew taps) deci X r.1 r.2.1 r.2.2 :=
  drive1_tagStep (firBlock o cd taps deci) X 0 (· / deci) (FirInv o cd (firNew taps) deci X)
    (fir_step o cd (firNew taps) deci hd (firNew_length taps ▸ ht) X) sched

theorem fir_driveT (o : Ops α) (cd : Codec α) (taps : List α) (deci : Nat) (hd : 0 < deci) (ht : 0 < taps.length)
    (X : List Nat) (T : List Tag) (sched : List (Nat × Nat)) :
    ∀ st c out ot, FirInv o cd (firNew taps) deci X st c out → ot.Perm ((rng T 0 c).map (mp (· / deci))) →
      let r := driveT (firBlock o cd taps deci) X T st c out ot sched
      FirInv o cd (firNew taps) deci X r.1 r.2.1 r.2.2.1 ∧ r.2.2.2.Perm ((rng T 0 r.2.1).map (mp (· / deci))) :=
  driveT_tags (firBlock o cd taps deci) X T 0 (· / deci) (FirInv o cd (firNew taps) deci X)
    (fir_step o cd (firNew taps) deci hd (firNew_length taps ▸ ht) X) sched

end RR.Dsp
