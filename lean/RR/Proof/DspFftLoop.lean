import RR.Model.Wrap
import RR.Proof.Drive

/-!
`FftFilter::work` for every chunking: however the input arrives and however much
output space there is at each call, the block has emitted exactly the first `B`
overlap-add batches (`olaRun … B 0`) when `B·S + |buf|` samples have been consumed,
its buffer holding the samples of the unfinished batch and its tail the carry of
batch `B`, in any arithmetic. Over a commutative ring `ola_eq_conv` then makes the
block's output the linear convolution of its input (`fftInv_conv`, in `DspOla`).
First, what is needed of `calc_fft_size`: a power of two, at least twice the taps.
-/
namespace RR.Dsp
open RR.Blk

theorem pow2Ge_ge : (fuel n from_ : Nat) → from_ ≤ n * 2 ^ fuel → from_ ≤ pow2Ge fuel n from_
  | 0, n, from_, h => by simpa [pow2Ge] using h
  | fuel + 1, n, from_, h => by
    unfold pow2Ge
    split
    · refine pow2Ge_ge fuel (2 * n) from_ ?_
      rwa [Nat.pow_succ, Nat.mul_comm (2 ^ fuel), ← Nat.mul_assoc, Nat.mul_comm n 2] at h
    · omega

theorem calcFftSize_ge (L : Nat) : 2 * L ≤ calcFftSize L := by
  unfold calcFftSize
  have := pow2Ge_ge L 1 L (by simpa using Nat.le_of_lt (Nat.lt_two_pow_self (n := L)))
  omega

theorem pow2Ge_pow2 : (fuel n from_ : Nat) → (∃ e, n = 2 ^ e) → ∃ e, pow2Ge fuel n from_ = 2 ^ e
  | 0, n, _, h => by simpa [pow2Ge] using h
  | fuel + 1, n, from_, ⟨e, he⟩ => by
    unfold pow2Ge
    split
    · exact pow2Ge_pow2 fuel (2 * n) from_ ⟨e + 1, by rw [he, Nat.pow_succ, Nat.mul_comm]⟩
    · exact ⟨e, he⟩

theorem calcFftSize_pow2 (L : Nat) : ∃ e, calcFftSize L = 2 ^ e := by
  obtain ⟨e, he⟩ := pow2Ge_pow2 L 1 L ⟨0, rfl⟩
  exact ⟨e + 1, by unfold calcFftSize; rw [he, Nat.pow_succ, Nat.mul_comm]⟩

theorem calcFftSize_batch_pos (L : Nat) : 0 < calcFftSize L - L := by
  have h1 := calcFftSize_ge L
  obtain ⟨e, he⟩ := calcFftSize_pow2 L
  have : 0 < 2 ^ e := Nat.pow_pos (by decide)
  omega

variable {α : Type}

theorem fftBatch_fst_length (o : Ops α) (taps buf tail : List α) :
    (fftBatch o taps buf tail).1.length = calcFftSize taps.length - taps.length := by
  simp only [fftBatch, List.length_take, List.length_map, List.length_range]
  omega

/-- **One call**, the one place where `fftWork` and its loop are opened: what holds before the first round and is kept
by every round holds of the call's result. A round takes `add` more samples of the window into the buffer (no more than
the window has, no more than the batch lacks) and either stops short of a batch or emits one. -/
theorem fftWork_ind (o : Ops α) (cd : Codec α) (taps : List α) (win : InView) (ov : OutView)
    (P : FftSt α → Nat → List Nat → List Tag → Prop)
    (hround : ∀ st pos outp otags add, P st pos outp otags →
      let S := calcFftSize taps.length - taps.length
      S ≤ ov.free - outp.length → add ≤ win.samples.length - pos → add ≤ S - st.buf.length →
      let buf := st.buf ++ ((win.samples.drop pos).take add).map cd.dec
      let tags := st.bufTags ++ (win.tags.filter fun t => decide (pos ≤ t.pos ∧ t.pos < pos + add)).map
        fun t => { t with pos := st.buf.length + (t.pos - pos) }
      buf.length = st.buf.length + add →
      (st.buf.length + add < S → P { st with buf := buf, bufTags := tags } (pos + add) outp otags) ∧
      (¬ st.buf.length + add < S → P ⟨[], [], (fftBatch o taps buf st.tail).2⟩ (pos + add)
        (outp ++ (fftBatch o taps buf st.tail).1.map cd.enc)
        (otags ++ tags.map fun t => { t with pos := outp.length + t.pos })))
    (st : FftSt α) (h0 : P st 0 [] []) :
    let r := fftWork o cd taps st ⟨[win], [ov]⟩
    let p := r.2.produced.getD 0 ⟨[], []⟩
    P r.1 (r.2.consumed.getD 0 0) p.samples p.tags := by
  have loop : ∀ fuel st pos outp otags, P st pos outp otags →
      let r := fftLoop o cd taps win ov.free fuel st pos outp otags
      P r.1 r.2.1 r.2.2.1 r.2.2.2.1 := by
    intro fuel
    induction fuel with
    | zero => intro st pos outp otags h; exact h
    | succ n ih =>
      intro st pos outp otags h
      simp only [fftLoop]
      split
      · exact h
      · have hlen : (st.buf ++ ((win.samples.drop pos).take (min (win.samples.length - pos)
            (calcFftSize taps.length - taps.length - st.buf.length))).map cd.dec).length = st.buf.length +
            min (win.samples.length - pos) (calcFftSize taps.length - taps.length - st.buf.length) := by
          simp only [List.length_append, List.length_map, List.length_take, List.length_drop]
          omega
        obtain ⟨h1, h2⟩ := hround st pos outp otags _ h (by omega) (Nat.min_le_left _ _) (Nat.min_le_right _ _) hlen
        split
        · next hshort => exact h1 (hlen ▸ hshort)
        · next hfull => exact ih _ _ _ _ (h2 (hlen ▸ hfull))
  simp only [fftWork, in0_cons, out0_cons, List.getD_cons_zero]
  exact loop _ st 0 [] [] h0

/-- a tag-free call keeps the block tag-free -/
theorem fftWork_notags (o : Ops α) (cd : Codec α) (taps : List α) (st : FftSt α) (w : List Nat) (al : Bool)
    (ov : OutView) (h : st.bufTags = []) :
    let r := fftWork o cd taps st ⟨[⟨w, [], al⟩], [ov]⟩
    r.1.bufTags = [] ∧ (r.2.produced.getD 0 ⟨[], []⟩).tags = [] :=
  fftWork_ind o cd taps ⟨w, [], al⟩ ov (fun st _ _ otags => st.bufTags = [] ∧ otags = [])
    (fun st pos outp otags add h _ _ _ _ => by simp [h.1, h.2]) st ⟨h, rfl⟩

/-- buffer and window together short of a batch: no round completes one, nothing is emitted -/
theorem fftWork_short (o : Ops α) (cd : Codec α) (taps : List α) (st : FftSt α) (w : List Nat) (ts : List Tag)
    (al : Bool) (f : Nat) (h : w.length < fftNeed taps st) :
    ((fftWork o cd taps st ⟨[⟨w, ts, al⟩], [⟨f, true⟩]⟩).2.produced.getD 0 ⟨[], []⟩).samples = [] := by
  unfold fftNeed at h
  refine (fftWork_ind o cd taps ⟨w, ts, al⟩ ⟨f, true⟩
    (fun st pos outp _ => outp = [] ∧ st.buf.length + (w.length - pos) < calcFftSize taps.length - taps.length)
    (fun st pos outp otags add hP _ (h1 : add ≤ w.length - pos) _ hlen => ?_) st ⟨rfl, by omega⟩).1
  exact ⟨fun _ => ⟨hP.1, by rw [hlen]; omega⟩, fun hfull => absurd hP.2 (by omega)⟩

/-- What the block's state says about the stream after `c` consumed samples. `olaRun` hands its tail on without
returning it, so the tail is pinned down by what it is good for: however many batches `K` are still to come, the run
from the start is what has been emitted, then the run from here. -/
def FftInv (o : Ops α) (cd : Codec α) (taps : List α) (Xn : List Nat) (st : FftSt α) (c : Nat) (out : List Nat) : Prop :=
  let S := calcFftSize taps.length - taps.length
  let Xd := Xn.map cd.dec
  ∃ B, c = B * S + st.buf.length ∧ st.buf.length < S ∧ st.buf = (Xd.drop (B * S)).take st.buf.length ∧
    ∀ K, (olaRun o taps S Xd (B + K) 0 (List.replicate taps.length o.zero)).map cd.enc =
      out ++ (olaRun o taps S Xd K B st.tail).map cd.enc

theorem fft_init (o : Ops α) (cd : Codec α) (taps : List α) (Xn : List Nat) :
    FftInv o cd taps Xn ⟨[], [], List.replicate taps.length o.zero⟩ 0 [] :=
  ⟨0, by simp, by simpa using calcFftSize_batch_pos taps.length, by simp, fun K => by simp⟩

theorem fft_step (o : Ops α) (cd : Codec α) (taps : List α) (Xn : List Nat) (st : FftSt α) (c : Nat)
    (out : List Nat) (a f : Nat) (ts : List Tag) (h : FftInv o cd taps Xn st c out) :
    let w := (Xn.drop c).take a
    let r := fftWork o cd taps st ⟨[⟨w, ts, true⟩], [⟨f, true⟩]⟩
    FftInv o cd taps Xn r.1 (c + r.2.consumed.getD 0 0) (out ++ (r.2.produced.getD 0 ⟨[], []⟩).samples) ∧
    r.2.consumed.getD 0 0 ≤ w.length := by
  intro w
  refine fftWork_ind o cd taps ⟨w, ts, true⟩ ⟨f, true⟩
    (fun st pos outp _ => FftInv o cd taps Xn st (c + pos) (out ++ outp) ∧ pos ≤ w.length)
    (fun st pos outp otags add h => ?_) st ⟨by simpa using h, Nat.zero_le _⟩
  obtain ⟨⟨B, hc, hlt, hbuf0, hrun⟩, hpos⟩ := h
  simp only [FftInv]
  have hS := calcFftSize_batch_pos taps.length
  generalize calcFftSize taps.length - taps.length = S at hS hc hlt hbuf0 hrun ⊢
  intro _ hadd1 hadd2 hlen
  have hwa : w.length ≤ a := List.length_take_le a _
  -- the samples taken in this round are the next `add` samples of the stream
  have hbuf : st.buf ++ ((w.drop pos).take add).map cd.dec =
      ((Xn.map cd.dec).drop (B * S)).take (st.buf.length + add) := by
    rw [window_slice Xn c a pos add (by omega), List.map_take, List.map_drop, hc]
    conv => lhs; arg 1; rw [hbuf0]
    rw [List.take_add, List.drop_drop]
  refine ⟨fun hshort => ⟨⟨B, by rw [hlen]; omega, hlen ▸ hshort, by rw [hlen, hbuf], hrun⟩, by omega⟩,
    fun hfull => ⟨⟨B + 1, ?_, hS, by simp, fun K => ?_⟩, by omega⟩⟩
  · simp only [List.length_nil]; rw [Nat.succ_mul]; omega
  · rw [hbuf, show st.buf.length + add = S by omega, Nat.add_right_comm, Nat.add_assoc, hrun (K + 1)]
    simp only [olaRun, List.map_append, List.append_assoc]

theorem fft_drive (o : Ops α) (cd : Codec α) (taps : List α) (Xn : List Nat) (sched : List (Nat × Nat)) :
    ∀ st c out, FftInv o cd taps Xn st c out →
      let r := drive1 (fftBlock o cd taps) Xn st c out sched
      FftInv o cd taps Xn r.1 r.2.1 r.2.2 :=
  drive1_inv (fftBlock o cd taps) Xn (FftInv o cd taps Xn)
    (fun st c out a f h => (fft_step o cd taps Xn st c out a f [] h).1) sched

end RR.Dsp
