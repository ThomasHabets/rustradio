import RR.Spec.Blocks
import RR.Proof.Drive

/-!
`FftStream` framing for every schedule: the block consumes whole frames only, and its output is the
engine applied to each consumed frame, in order — whatever the read windows and the output space.
-/
namespace RR.Dsp
open RR RR.Blk

theorem framesOf_append (size : Nat) (q m : Nat) (a b : List Nat) (ha : a.length = q * size) :
    framesOf size (q + m) (a ++ b) = framesOf size q a ++ framesOf size m b := by
  induction q generalizing a with
  | zero =>
    have : a = [] := List.length_eq_zero_iff.mp (by simpa using ha)
    subst this
    simp [framesOf]
  | succ q ih =>
    have hlen : size ≤ a.length := by rw [ha, Nat.succ_mul]; omega
    rw [show q + 1 + m = (q + m) + 1 by omega]
    simp only [framesOf]
    rw [List.take_append_of_le_length hlen, List.drop_append_of_le_length hlen,
      ih (a.drop size) (by rw [List.length_drop, ha, Nat.succ_mul]; omega)]
    rfl

/-- as many whole frames as both windows hold -/
theorem fftStreamWork_one (engine : List Nat → List Nat) (size : Nat) (hs : 0 < size) (st : Unit) (w : List Nat)
    (ts : List Tag) (al : Bool) (f : Nat) (al' : Bool) :
    fftStreamWork engine size st ⟨[⟨w, ts, al⟩], [⟨f, al'⟩]⟩ =
      if w.length < size then (st, ⟨[0], [⟨[], []⟩], .waitIn 0 size⟩)
      else if f < size then (st, ⟨[0], [⟨[], []⟩], .waitOut 0 size⟩)
      else (st, ⟨[min w.length f / size * size],
        [⟨(framesOf size (min w.length f / size) (w.take (min w.length f / size * size))).flatMap engine, []⟩],
        .again⟩) := by
  have hdiv : min w.length f - min w.length f % size = min w.length f / size * size := by
    have := Nat.div_add_mod (min w.length f) size
    rw [Nat.mul_comm] at this; omega
  simp only [fftStreamWork, in0_cons, out0_cons, noOut_one, Nat.ne_of_gt hs, if_false, hdiv, Nat.mul_div_cancel _ hs]

def FftStreamInv (engine : List Nat → List Nat) (size : Nat) (X : List Nat) (_ : Unit) (c : Nat) (out : List Nat) :
    Prop :=
  ∃ q, c = q * size ∧ q * size ≤ X.length ∧ out = fftStreamSpec engine size X q

theorem fftStream_init (engine : List Nat → List Nat) (size : Nat) (X : List Nat) :
    FftStreamInv engine size X () 0 [] :=
  ⟨0, (Nat.zero_mul _).symm, by rw [Nat.zero_mul]; exact Nat.zero_le _, rfl⟩

theorem fftStream_step (engine : List Nat → List Nat) (size : Nat) (hs : 0 < size) (X : List Nat) (st : Unit)
    (c : Nat) (out : List Nat) (a f : Nat) (h : FftStreamInv engine size X st c out) :
    let w := (X.drop c).take a
    let r := fftStreamWork engine size st ⟨[⟨w, [], true⟩], [⟨f, true⟩]⟩
    FftStreamInv engine size X r.1 (c + r.2.consumed.getD 0 0) (out ++ (r.2.produced.getD 0 ⟨[], []⟩).samples) := by
  intro w r
  obtain ⟨q, rfl, hq, rfl⟩ := h
  have hwl : w.length ≤ X.length - q * size := window_length_le X (q * size) a
  simp only [r, fftStreamWork_one engine size hs]
  split
  · exact ⟨q, rfl, hq, List.append_nil _⟩
  split
  · exact ⟨q, rfl, hq, List.append_nil _⟩
  · have hmle := Nat.div_mul_le_self (min w.length f) size
    generalize min w.length f / size = m at hmle ⊢
    simp only [List.getD_cons_zero]
    refine ⟨q + m, (Nat.add_mul ..).symm, by rw [Nat.add_mul]; omega, ?_⟩
    simp only [fftStreamSpec]
    rw [Nat.add_mul, take_add_window X (q * size) a _ (Nat.le_trans hmle (Nat.min_le_left _ _)),
      framesOf_append size q m _ _ (by rw [List.length_take]; omega), List.flatMap_append]

theorem fftStream_drive (engine : List Nat → List Nat) (size : Nat) (hs : 0 < size) (X : List Nat)
    (sched : List (Nat × Nat)) :
    ∀ st c out, FftStreamInv engine size X st c out →
      let r := drive1 (fftStreamBlock engine size) X st c out sched
      FftStreamInv engine size X r.1 r.2.1 r.2.2 :=
  drive1_inv (fftStreamBlock engine size) X (FftStreamInv engine size X) (fftStream_step engine size hs X) sched

end RR.Dsp
