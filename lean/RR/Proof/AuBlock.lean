import RR.Spec.Formats
import RR.Proof.Au
import RR.Proof.Drive

/-!
AuDecode as a block, for every chunking: whatever read windows and output space
the calls see, the block is where the one-shot decoder `Au.decode` says it
should be — it fails only if the one-shot decoder fails on the whole stream, and
once in the data state its cumulative output is a prefix of the one-shot result.
-/
namespace RR.Au
open RR RR.Blk

/-- where the block is after consuming `c` bytes of `X` without an error -/
def AuInv (bitrate : Nat) (deq : Nat → Nat) (X : List Nat) (st : DecSt) (c : Nat) (out : List Nat) : Prop :=
  match st with
  | .magic => c = 0 ∧ out = []
  | .size => c = 4 ∧ out = [] ∧ 4 ≤ X.length ∧ ofBeBytes (X.take 4) = magic
  | .header off => c = 8 ∧ out = [] ∧ 8 ≤ X.length ∧ ofBeBytes (X.take 4) = magic ∧
      ofBeBytes ((X.drop 4).take 4) = off
  | .data => ∃ off d, Valid bitrate X off ∧ c = off + d ∧ c ≤ X.length ∧ d % 2 = 0 ∧
      out = (pairsBE ((X.drop off).take d)).map deq

/-- What a call that returned `r` has to establish: an error only if the one-shot decoder reports one
for the whole stream, otherwise the invariant at the new position. -/
def Step (bitrate : Nat) (deq : Nat → Nat) (X : List Nat) (c : Nat) (out : List Nat) (r : DecSt × Out) : Prop :=
  (r.2.verdict = .err → ∃ e, decode bitrate X = .error e) ∧
  (r.2.verdict ≠ .err →
    AuInv bitrate deq X r.1 (c + r.2.consumed.getD 0 0) (out ++ (r.2.produced.getD 0 ⟨[], []⟩).samples))

section
variable {bitrate : Nat} {deq : Nat → Nat} {X : List Nat} {c : Nat} {out : List Nat} {st : DecSt} {v : View}

theorem Step.wait {vd : Verdict} (h : AuInv bitrate deq X st c out) (hv : vd ≠ .err) :
    Step bitrate deq X c out (st, noOut v vd) :=
  ⟨fun e => absurd e hv, fun _ => by simpa only [noOut_nothing, Nat.add_zero, List.append_nil] using h⟩

theorem Step.err {n : Nat} (h : ∃ e, decode bitrate X = .error e) :
    Step bitrate deq X c out (st, errOut v n) :=
  ⟨fun _ => h, fun hne => absurd rfl hne⟩

theorem Step.again {n : Nat} {s : List Nat} (h : AuInv bitrate deq X st (c + n) (out ++ s)) :
    Step bitrate deq X c out (st, stepOut v n s) :=
  ⟨nofun, fun _ => h⟩

end

theorem dec_step (bitrate : Nat) (deq : Nat → Nat) (X : List Nat) (st : DecSt) (c : Nat) (out : List Nat)
    (a : Nat) (v : View) (hinv : AuInv bitrate deq X st c out) (hi : (in0 v).samples = (X.drop c).take a) :
    Step bitrate deq X c out (decWork bitrate deq st v) := by
  have hwl := window_length_le X c a
  have htk := window_take X c a
  generalize (X.drop c).take a = w at hi hwl htk
  simp only [decWork, hi, List.isEmpty_iff, beq_iff_eq]
  by_cases hne : w = []
  · rw [if_pos hne]; exact .wait hinv nofun
  rw [if_neg hne]
  have hpos : 0 < w.length := List.length_pos_iff.2 hne
  cases st <;> dsimp only
  case magic =>
    obtain ⟨rfl, rfl⟩ := hinv
    by_cases h4 : w.length < 4
    · rw [if_pos h4]; exact .wait ⟨rfl, rfl⟩ nofun
    have hx4 : 4 ≤ X.length := by omega
    rw [if_neg h4, htk 4 (Nat.le_of_not_lt h4), List.drop_zero]
    by_cases hm : ofBeBytes (X.take 4) = magic
    · rw [if_neg (Decidable.not_not.2 hm)]; exact .again ⟨rfl, rfl, hx4, hm⟩
    · rw [if_pos hm]; exact .err (decode_error rfl hx4 (.inl hm))
  case size =>
    obtain ⟨rfl, rfl, hx4, hm⟩ := hinv
    by_cases h4 : w.length < 4
    · rw [if_pos h4]; exact .wait ⟨rfl, rfl, hx4, hm⟩ nofun
    · rw [if_neg h4, htk 4 (Nat.le_of_not_lt h4)]; exact .again ⟨rfl, rfl, by omega, hm, rfl⟩
  case header off =>
    obtain ⟨rfl, rfl, hx8, hm, hoff⟩ := hinv
    -- a non-empty window after 8 consumed bytes: `decode` has its ninth byte and examines the offset too
    have herr := fun h => decode_error (bitrate := bitrate) hoff (by omega) (.inr ⟨by omega, h⟩)
    by_cases h24 : off < 24
    · rw [if_pos h24]; exact .err (herr (.inl h24))
    rw [if_neg h24]
    by_cases hl : w.length < off - 8
    · rw [if_pos hl]; exact .wait ⟨rfl, rfl, hx8, hm, hoff⟩ nofun
    have hlen : off ≤ X.length := by omega
    -- the slices `head[4..16]` cannot be out of range: `head` has `off - 8 ≥ 16` bytes
    rw [if_neg hl, htk _ (Nat.le_of_not_lt hl), if_neg (by rw [List.length_take, List.length_drop]; omega)]
    split
    next g => exact .err (herr (.inr ⟨hlen, fun hh => g hh.1⟩))
    split
    next g => exact .err (herr (.inr ⟨hlen, fun hh => g hh.2.1⟩))
    split
    next g => exact .err (herr (.inr ⟨hlen, fun hh => g hh.2.2⟩))
    next g1 g2 g3 =>
      exact .again ⟨off, 0, ⟨hm, hoff, Nat.le_of_not_lt h24, hlen, Decidable.not_not.1 g1, Decidable.not_not.1 g2,
        Decidable.not_not.1 g3⟩, by omega, by omega, rfl, rfl⟩
  case data =>
    obtain ⟨off, d, hv, rfl, hcx, hev, rfl⟩ := hinv
    generalize hn : min w.length ((out0 v).free * 2) - min w.length ((out0 v).free * 2) % 2 = n
    by_cases h0 : n = 0
    · rw [if_pos h0]; split <;> exact .wait ⟨off, d, hv, rfl, hcx, hev, rfl⟩ nofun
    rw [if_neg h0]
    refine .again ⟨off, d + n, hv, Nat.add_assoc _ _ _, by omega, by omega, ?_⟩
    rw [List.take_add, List.drop_drop, pairsBE_append _ _ (by rw [List.length_take, List.length_drop]; omega),
      List.map_append, htk n (by omega)]

theorem au_drive (bitrate : Nat) (deq : Nat → Nat) (X : List Nat) (sched : List (Nat × Nat))
    (st : DecSt) (c : Nat) (out : List Nat) (h : AuInv bitrate deq X st c out) :
    let r := auDrive bitrate deq X st c out sched
    (r.2.2.2 = true → ∃ e, decode bitrate X = .error e) ∧
    (r.2.2.2 = false → AuInv bitrate deq X r.1 r.2.1 r.2.2.1) := by
  fun_induction auDrive bitrate deq X st c out sched with
  | case1 => exact ⟨nofun, fun _ => h⟩
  | case2 st c out a f rest r hv => exact ⟨fun _ => (dec_step bitrate deq X st c out a _ h rfl).1 hv, nofun⟩
  | case3 st c out a f rest r hv ih => exact ih ((dec_step bitrate deq X st c out a _ h rfl).2 hv)

theorem inv_data_prefix (bitrate : Nat) (deq : Nat → Nat) (X : List Nat) (c : Nat) (out : List Nat)
    (h : AuInv bitrate deq X .data c out) :
    ∃ off pcm, decode bitrate X = .ok (some pcm) ∧ off ≤ c ∧ out = (pcm.take ((c - off) / 2)).map deq := by
  obtain ⟨off, d, hv, rfl, -, hev, rfl⟩ := h
  refine ⟨off, _, decode_eq_ok_some.2 ⟨off, hv, rfl⟩, Nat.le_add_right _ _, ?_⟩
  rw [← pairsBE_take, Nat.add_sub_cancel_left, Nat.mul_div_cancel' (Nat.dvd_of_mod_eq_zero hev)]

end RR.Au
