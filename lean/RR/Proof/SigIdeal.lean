import RR.Spec.SigIdeal
import RR.Proof.SinkSrc

/-!
The signal sources over exact reals: the phase accumulator is reduced modulo 2π after every step (by ANY
whole number of turns — C's `fmod` truncates, a floor-mod would do as well), and the k-th sample is
nevertheless `sin(k·rad)` / `−cos(k·rad)`: a pure tone of `rad` radians per sample, starting one step
after phase 0.
-/
namespace RR.Blk
open Real

/-- From any phase that is `j·rad` less a whole number of turns, the next `k` samples are those of the pure tone
from index `j` on: along `genTake`'s own recursion, each step adding `rad` and taking `turns _` more turns off. -/
theorem sig_from (turns : ℝ → ℤ) (rad : ℝ) (out : ℝ → ℝ → Nat) : ∀ (k j : ℕ) (M : ℤ) (s : ℝ),
    s = j * rad - M * (2 * π) →
    (genTake (sigGen (realSigOps turns) rad out) k s).2 =
      (List.range' j k).map fun i => out (Real.sin ((i + 1 : ℕ) * rad)) (-Real.cos ((i + 1 : ℕ) * rad))
  | 0, _, _, _, _ => rfl
  | k + 1, j, M, s, h => by
    have e : s + rad - turns (s + rad) * (2 * π) = (j + 1 : ℕ) * rad - (M + turns (s + rad) : ℤ) * (2 * π) := by
      rw [h]; push_cast; ring
    -- the right side, brought into the shape of one step of `genTake` from `s`
    rw [List.range'_succ, List.map_cons, ← sig_from turns rad out k (j + 1) _ _ e,
      ← Real.sin_sub_int_mul_two_pi _ (M + turns (s + rad)), ← Real.cos_sub_int_mul_two_pi _ (M + turns (s + rad)),
      ← Real.sin_sub_pi_div_two, ← e]
    rfl

end RR.Blk
