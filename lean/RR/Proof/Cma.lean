import RR.Spec.Blocks
import RR.Proof.Drive

/-!
`CmaEqualizer` (model `RR.Dsp.cmaBlock`, compared call by call with the real block, taps included through its
outputs): the block state and the cumulative output are a function of the number of samples consumed alone —
whatever windows and output space the calls were given. Each productive call handles exactly `ntaps` samples.
-/
namespace RR.Dsp
open RR.Blk

/-- `k`: the block count the drive started from; `c08_cma` also says that the count does not fall below it -/
def CmaInv (n : Nat) (m s : Float32) (X : List Nat) (k : Nat) (st : List C32) (c : Nat) (out : List Nat) : Prop :=
  ∃ k', k ≤ k' ∧ (st, c, out) = ((cmaBlocks n m s X k').1, k' * n, (cmaBlocks n m s X k').2)

theorem cma_init (n : Nat) (m s : Float32) (X : List Nat) (k : Nat) :
    CmaInv n m s X k (cmaBlocks n m s X k).1 (k * n) (cmaBlocks n m s X k).2 :=
  ⟨k, Nat.le_refl k, rfl⟩

/-- a call either does nothing or handles one more block -/
theorem cma_step (n : Nat) (m s : Float32) (X : List Nat) (k : Nat) (st : List C32) (c : Nat) (out : List Nat)
    (a f : Nat) (h : CmaInv n m s X k st c out) :
    let w := (X.drop c).take a
    let r := cmaWork n m s st ⟨[⟨w, [], true⟩], [⟨f, true⟩]⟩
    CmaInv n m s X k r.1 (c + r.2.consumed.getD 0 0) (out ++ (r.2.produced.getD 0 ⟨[], []⟩).samples) := by
  intro w
  obtain ⟨k', hk, he⟩ := h
  cases he
  fun_cases cmaWork n m s (cmaBlocks n m s X k').1 ⟨[⟨w, [], true⟩], [⟨f, true⟩]⟩ with
  | case1 => exact ⟨k', hk, by simp⟩
  | case2 => exact ⟨k', hk, by simp⟩
  | case3 i h1 _ win r =>
    refine ⟨k' + 1, Nat.le_succ_of_le hk, ?_⟩
    simp only [r, win, i, w, in0_cons, window_take X (k' * n) a n (Nat.le_of_not_lt h1), List.getD_cons_zero, cmaBlocks,
      Nat.succ_mul]

theorem cma_drive (n : Nat) (m s : Float32) (X : List Nat) (k : Nat) (sched : List (Nat × Nat)) :
    ∀ st c out, CmaInv n m s X k st c out →
      let r := drive1 (cmaBlock n m s) X st c out sched
      CmaInv n m s X k r.1 r.2.1 r.2.2 :=
  drive1_inv (cmaBlock n m s) X (CmaInv n m s X k) (cma_step n m s X k) sched

theorem cmaLoop_length (m s : Float32) (co win : List C32) :
    ∀ (xs taps out : List C32), (cmaLoop m s co win taps xs out).2.length = out.length + xs.length
  | [], _, _ => by simp [cmaLoop]
  | x :: xs, taps, out => by
    simp only [cmaLoop]
    rw [cmaLoop_length m s co win xs]
    simp; omega

/-- every productive call emits exactly as many samples as it consumes: `ntaps` -/
theorem cma_counts (n : Nat) (m s : Float32) (taps : List C32) (v : View)
    (hi : n ≤ (in0 v).samples.length) (ho : n ≤ (out0 v).free) :
    let r := cmaWork n m s taps v
    r.2.consumed = [n] ∧ (r.2.produced.map (·.samples.length)) = [n] := by
  fun_cases cmaWork n m s taps v with
  | case1 _ h => exact absurd hi (Nat.not_le.mpr h)
  | case2 _ _ h => exact absurd ho (Nat.not_le.mpr h)
  | case3 i _ _ win r =>
    simp only [r, win, i, List.map, List.length_map, cmaLoop_length, List.length_nil, List.length_take, Nat.zero_add,
      Nat.min_eq_left hi, true_and]

end RR.Dsp
