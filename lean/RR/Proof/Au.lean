import RR.Model.Au
import RR.Proof.Codec

/-!
The one-shot decoder `decode` is a chain of early exits. `decode_eq_ok_some` says once when it gets
through all of them (`Valid`); `decode_error` says that a guard that fires makes it an error — what
`AuDecode` as a block needs, since it meets the guards one call at a time. Each is one `simp` pass over the
chain (`ite_eq_of_ne`, `exists_ite_error`). The round trip is then: the encoder's 28 header bytes are `Valid`
with offset 28.
-/
namespace RR

/-- Asking when a chain of early exits (`if c₁ then r₁ else if c₂ then r₂ else … else r`) returns `x`
turns every exit whose result cannot be `x` into a guard that did not fire. As a `simp` lemma (the side
goal `rᵢ ≠ x` is closed by `reduceCtorEq`) one pass rewrites `f a = x` to `¬c₁ ∧ ¬c₂ ∧ … ∧ r = x`;
splitting the chain one `if` at a time instead re-simplifies the whole remaining term at every step. -/
theorem ite_eq_of_ne {α} {c : Prop} [Decidable c] {a b x : α} (h : a ≠ x) :
    (if c then a else b) = x ↔ ¬ c ∧ b = x := by
  by_cases hc : c <;> simp [hc, h]

/-- The same for "is an error": an exit with an error fires or a later one does (an exit with `.ok` is
`ite_eq_of_ne`'s case). -/
theorem exists_ite_error {ε α} {c : Prop} [Decidable c] {a : ε} {b : Except ε α} :
    (∃ e, (if c then .error a else b) = .error e) ↔ c ∨ ∃ e, b = .error e := by
  by_cases hc : c <;> simp [hc]

end RR

namespace RR.Au
open RR.Codec

theorem beBytes_length (n x : Nat) : (beBytes n x).length = n := by simp [beBytes, leBytes_length]

theorem ofBe_beBytes (n x : Nat) (h : x < 256 ^ n) : ofBeBytes (beBytes n x) = x := by
  simp [ofBeBytes, beBytes, ofLe_leBytes n x h]

theorem header_length (b : Nat) : (header b).length = 28 := by simp [header, beBytes_length]

theorem pairsBE_append : ∀ (A B : List Nat), A.length % 2 = 0 → pairsBE (A ++ B) = pairsBE A ++ pairsBE B
  | [], _, _ => rfl
  | [_], _, h => nomatch h
  | a :: b :: rest, B, h => by
    rw [List.length_cons, List.length_cons, Nat.add_assoc, Nat.add_mod_right] at h
    exact congrArg _ (pairsBE_append rest B h)

theorem pairsBE_take : ∀ (k : Nat) (l : List Nat), pairsBE (l.take (2 * k)) = (pairsBE l).take k
  | 0, _ => rfl
  | _ + 1, [] => rfl
  | _ + 1, [_] => rfl
  | k + 1, _ :: _ :: rest => congrArg _ (pairsBE_take k rest)

theorem pairsBE_flatMap (vs : List Nat) (h : ∀ v ∈ vs, v < 65536) :
    pairsBE (vs.flatMap fun v => beBytes 2 v) = vs := by
  induction vs with
  | nil => rfl
  | cons v rest ih =>
    have hv := h v (by simp)
    rw [List.flatMap_cons, show beBytes 2 v = [v / 256 % 256, v % 256] from rfl]
    simp only [List.cons_append, List.nil_append, pairsBE, ih fun x hx => h x (by simp [hx])]
    congr 1
    omega

/-- The checks made on `head`, the `off - 8` bytes that follow the offset field. -/
def HeadOK (bitrate : Nat) (head : List Nat) : Prop :=
  ofBeBytes ((head.drop 4).take 4) = pcm16 ∧ ofBeBytes ((head.drop 8).take 4) = bitrate ∧
  ofBeBytes ((head.drop 12).take 4) = 1

/-- `X` begins with a complete header that `decode` accepts, the audio starting at byte `off`. -/
def Valid (bitrate : Nat) (X : List Nat) (off : Nat) : Prop :=
  ofBeBytes (X.take 4) = magic ∧ ofBeBytes ((X.drop 4).take 4) = off ∧ 24 ≤ off ∧ off ≤ X.length ∧
    HeadOK bitrate ((X.drop 8).take (off - 8))

theorem decode_eq_ok_some {bitrate : Nat} {X s : List Nat} :
    decode bitrate X = .ok (some s) ↔ ∃ off, Valid bitrate X off ∧ s = pairsBE (X.drop off) := by
  -- one pass: every exit other than the last cannot be `.ok (some s)`, so its guard did not fire
  simp only [decode, ite_eq_of_ne, ne_eq, reduceCtorEq, not_false_eq_true, Except.ok.injEq,
    Option.some.injEq, Decidable.not_not, Nat.not_lt]
  constructor
  · rintro ⟨-, hm, -, -, h24, hl, g1, g2, g3, rfl⟩
    exact ⟨_, ⟨hm, rfl, h24, hl, g1, g2, g3⟩, rfl⟩
  · rintro ⟨_, ⟨hm, rfl, h24, hl, g1, g2, g3⟩, rfl⟩
    exact ⟨by omega, hm, by omega, by omega, h24, hl, g1, g2, g3, rfl⟩

/-- `decode` fails as soon as a check that can be made fails: the magic; with nine bytes (the offset field
examined) the offset; the header fields once `off` bytes are there. -/
theorem decode_error {bitrate off : Nat} {X : List Nat} (hoff : ofBeBytes ((X.drop 4).take 4) = off)
    (h4 : 4 ≤ X.length)
    (h : ofBeBytes (X.take 4) ≠ magic ∨
      9 ≤ X.length ∧ (off < 24 ∨ off ≤ X.length ∧ ¬ HeadOK bitrate ((X.drop 8).take (off - 8)))) :
    ∃ e, decode bitrate X = .error e := by
  subst hoff
  -- one pass: "some exit with an error fires", the three header checks gathered into `¬ HeadOK` again
  simp only [decode, exists_ite_error, ite_eq_of_ne, ne_eq, reduceCtorEq, not_false_eq_true, exists_and_left,
    exists_false, or_false, Nat.not_lt, ← Decidable.not_and_iff_not_or_not]
  exact ⟨h4, h.imp_right fun ⟨h9, h⟩ => ⟨by omega, h9, h⟩⟩

/-- The header is a fixed table of 28 bytes, so each field `decode` reads is found by evaluation;
only the bit-rate word is not a literal. -/
theorem encode_valid (bitrate : Nat) (hb : bitrate < 256 ^ 4) (body : List Nat) :
    Valid bitrate (header bitrate ++ body) 28 :=
  ⟨rfl, rfl, by decide, by simp [header_length], rfl, ofBe_beBytes 4 bitrate hb, rfl⟩

/-- Decoding the encoder's output yields exactly the quantised samples: none
extra (no header bytes decoded as audio), none missing. -/
theorem decode_encode (bitrate : Nat) (hb : bitrate < 256 ^ 4) (q : Nat → Nat) (hq : ∀ x, q x < 65536)
    (xs : List Nat) : decode bitrate (encode bitrate q xs) = .ok (some (xs.map q)) := by
  refine decode_eq_ok_some.2 ⟨28, encode_valid bitrate hb _, ?_⟩
  rw [encode, List.drop_left' (header_length bitrate), ← List.flatMap_map,
    pairsBE_flatMap _ (by simpa using fun x _ => hq x)]

end RR.Au
