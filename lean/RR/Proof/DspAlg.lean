import RR.Spec.DspAlg
import RR.Proof.DspFir
import RR.Proof.GetD
import Mathlib.Algebra.BigOperators.Intervals
import Mathlib.Tactic.Ring

/-!
The kernels of `RR.Dsp` over a commutative ring (exact arithmetic: ℤ, ℚ, ℝ, ℂ,
Gaussian integers …): what the float code computes up to rounding.

* `Fir::filter` is the sum of products over the stored taps (`dot_eq_sum`), which at offset `off` is the linear
  convolution `convAt` at `off + ntaps - 1` (`fir_eq_conv`);
* the 8-lane reductions equal the scalar fold.
-/
namespace RR.Dsp
open Finset

variable {R : Type} [CommRing R]

theorem foldl_add (l : List R) (a : R) : l.foldl (· + ·) a = a + l.sum :=
  List.foldl_eq_apply_foldr

/-- `Finset.range n` is `List.range n` underneath, and `Finset.sum` the list sum. -/
theorem sum_map_range (f : ℕ → R) (n : ℕ) : ((List.range n).map f).sum = ∑ i ∈ range n, f i := rfl

theorem sum_range_congr {f g : ℕ → R} {n : ℕ} (h : ∀ k, k < n → f k = g k) :
    ∑ k ∈ range n, f k = ∑ k ∈ range n, g k :=
  Finset.sum_congr rfl fun k hk => h k (Finset.mem_range.mp hk)

/-- No length condition: past the shorter list the `getD` default makes the terms zero. -/
theorem zipWith_sum : (inp rt : List R) →
    (List.zipWith (fun f x => x * f) inp rt).sum = ∑ j ∈ range rt.length, rt.getD j 0 * inp.getD j 0
  | _, [] => by simp
  | [], t :: rt => by simp
  | x :: inp, t :: rt => by
    simp only [List.zipWith_cons_cons, List.sum_cons, List.length_cons]
    rw [Finset.sum_range_succ', zipWith_sum inp rt]
    simp [add_comm]

theorem dot_eq_sum (rt inp : List R) :
    dot (ringOps R) rt inp = ∑ j ∈ range rt.length, rt.getD j 0 * inp.getD j 0 := by
  show List.foldl (· + ·) 0 (List.zipWith (fun f x => x * f) inp rt) = _
  rw [foldl_add, zero_add, zipWith_sum inp rt]

/-- `Fir::new` stores the taps reversed, so the filter at offset `off` is the convolution at `off + ntaps - 1`, where
every tap finds a sample (`k ≤ n`). -/
theorem fir_eq_conv (taps X : List R) (off : ℕ) :
    dot (ringOps R) (firNew taps) (X.drop off) = convAt taps X (off + (taps.length - 1)) := by
  rw [dot_eq_sum, firNew, List.length_reverse, ← Finset.sum_range_reflect]
  refine sum_range_congr fun k hk => ?_
  rw [if_pos (by omega), getD_reverse 0 (by omega), getD_drop, Nat.sub_sub_self (by omega)]
  congr 2
  omega

theorem sum_blocks (f : ℕ → R) (w q : ℕ) :
    ∑ i ∈ range (w * q), f i = ∑ c ∈ range q, ∑ j ∈ range w, f (w * c + j) := by
  induction q with
  | zero => simp
  | succ q ih =>
    rw [Nat.mul_succ, Finset.sum_range_add, ih, Finset.sum_range_succ (fun c => ∑ j ∈ range w, f (w * c + j)) q]

theorem lane_eq (a b : List R) (j : ℕ) :
    lane (ringOps R) a b j = ∑ c ∈ range (a.length / 8), a.getD (8 * c + j) 0 * b.getD (8 * c + j) 0 := by
  show List.foldl (· + ·) 0 _ = _
  rw [foldl_add, zero_add]
  exact sum_map_range _ _

/-- Split at the last whole chunk of `w`: the chunks, summed lane by lane, then the rest. -/
theorem sum_lanes (f : ℕ → R) (w n : ℕ) :
    ∑ i ∈ range n, f i =
      ∑ j ∈ range w, ∑ c ∈ range (n / w), f (w * c + j) + ∑ i ∈ range (n % w), f (n - n % w + i) := by
  conv_lhs => rw [← Nat.div_add_mod n w, sum_range_add, sum_blocks, sum_comm]
  rw [Nat.sub_eq_of_eq_add (Nat.div_add_mod n w).symm]

theorem dotAvx_eq_dot (taps input : List R) (h : taps.length = input.length) :
    dotAvx (ringOps R) taps input = some (dot (ringOps R) taps input) := by
  rw [dot_eq_sum, sum_lanes _ 8, dotAvx, if_neg (not_not.2 h)]
  simp only [lane_eq]
  -- both sides: the eight lane sums (added in `hadd` order on the left) and the tail from `skip` on
  simp only [ringOps, foldl_add, zipWith_sum, getD_drop, List.length_drop, sum_range_succ, sum_range_zero,
    mul_comm (input.getD _ 0), ← h, Nat.sub_sub_self (Nat.mod_le _ 8)]
  congr 1
  ring

theorem dotSimd_eq_dot (taps input : List R) (h : taps.length ≤ input.length) :
    dotSimd (ringOps R) taps input = some (dot (ringOps R) taps input) := by
  unfold dotSimd
  rw [if_neg (by omega), dotAvx_eq_dot taps _ (by simp; omega), ← dot_take]

end RR.Dsp
