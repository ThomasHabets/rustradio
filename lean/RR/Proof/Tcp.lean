import RR.Model.Tcp
import RR.Proof.Codec

/-!
`TcpSource`'s carry-buffer code computes the ideal reassembly (`feed`): for every
partial sample held and every read (an empty one included, which `work()` takes for the closed connection before it gets here), the
samples pushed are the whole samples of `buf ++ chunk` and the new buffer is the remainder.
-/
namespace RR.Codec

/-- The code's three behaviours are `feed`'s: a read with nothing carried over (`feed_def`), a read that leaves
the partial sample incomplete (`feed_iff` with no whole sample), and a read whose first bytes complete it
(`feed_one`) and whose rest arrives with nothing carried over (`feed_append`). -/
theorem tcp_refines_feed (t : Ty) (buf chunk : List Nat) (hb : buf.length < t.size) :
    tcpStep t buf chunk = feed t buf chunk := by
  simp only [tcpStep]
  by_cases hbe : buf = []
  · subst hbe
    simp only [feed_def, List.isEmpty_nil, if_true, Bool.not_true, Bool.false_and, Bool.false_eq_true, if_false,
      Nat.sub_zero, List.drop_zero, List.nil_append]
    -- the code's `if steal < n`: an empty read keeps nothing, and there is nothing to keep
    split
    · rfl
    · rw [List.drop_eq_nil_of_le (by omega)]
  have hbne : buf.isEmpty = false := by simpa using hbe
  by_cases hshort : chunk.length < t.size - buf.length
  · -- the read does not complete the partial sample: nothing is emitted
    have hst : min (t.size - buf.length) chunk.length = chunk.length := Nat.min_eq_right (Nat.le_of_lt hshort)
    have hne : ((buf ++ chunk).length == t.size) = false := by
      rw [beq_eq_false_iff_ne, List.length_append]; omega
    simp only [hbne, hst, hne, List.take_length, Nat.sub_self, Nat.zero_mod, Nat.sub_zero,
      List.take_zero, Nat.lt_irrefl, Bool.false_eq_true, if_false, Bool.not_false, Bool.true_and,
      List.nil_append]
    exact (feed_iff.2 ⟨[], rfl, Nat.zero_mod _, by rw [List.length_append]; omega, rfl⟩).symm
  · -- the read completes it with its first `s` bytes; the rest arrives with nothing carried over
    generalize hsd : t.size - buf.length = s at *
    have hst : min s chunk.length = s := Nat.min_eq_left (Nat.le_of_not_lt hshort)
    have hb1 : (buf ++ chunk.take s).length = t.size := by
      rw [List.length_append, List.length_take, hst, ← hsd, Nat.add_sub_cancel' (Nat.le_of_lt hb)]
    have hcond : ((buf ++ chunk.take s).length == t.size) = true := by rw [hb1]; exact beq_self_eq_true _
    have hrem := Nat.mod_le (chunk.length - s) t.size
    have hf := feed_append (feed_one hb1) (feed_def t [] (chunk.drop s))
    rw [List.take_append_drop] at hf
    simp only [hf, hbne, hst, hcond, Bool.false_eq_true, if_false, if_true, Bool.not_false,
      Bool.true_and, List.nil_append, List.length_drop, List.drop_drop, Nat.sub_right_comm chunk.length s]
    rw [show s + (chunk.length - (chunk.length - s) % t.size - s) = chunk.length - (chunk.length - s) % t.size by
      omega]
    -- what is left is the code's `if steal < n`: a read that ends with the completed sample keeps nothing
    split
    · rfl
    · rw [show chunk.length - s = 0 by omega, Nat.zero_mod, Nat.sub_zero, List.drop_length]

theorem tcpAll_eq_feedAll (t : Ty) (buf : List Nat) (chunks : List (List Nat)) (hb : buf.length < t.size) :
    ((tcpAll t buf chunks).1, (tcpAll t buf chunks).2.flatten) = feedAll t buf chunks := by
  induction chunks generalizing buf with
  | nil => rfl
  | cons c rest ih =>
    have i := ih (feed t buf c).1 (feed_fst_length t buf c)
    simp only [tcpAll, feedAll, tcp_refines_feed t buf c hb, List.flatten_cons,
      ← congrArg Prod.fst i, ← congrArg Prod.snd i]

end RR.Codec
