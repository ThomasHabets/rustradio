import RR.Proof.Ring

/-! Lifting the one-step simulation to every operation sequence. -/
namespace RR.Ring
open RR

theorem specTags_ofR (ts : List Fifo.RTag) :
    specTags (ts.map ofR) = ts.map fun t => (t.pos, t.key, t.val) := by
  simp [specTags, ofR]

theorem step_sim {s : State} {q : Fifo.Q} (h : Sim s q) (op : Fifo.Op) (hv : op.Valid) : ∃ o,
    (step s op = (none, o) ∧ Fifo.step s.cap q op = (none, o)) ∨
    ∃ s' q', step s op = (some s', o) ∧ Fifo.step s.cap q op = (some q', o) ∧
      Sim s' q' ∧ s'.cap = s.cap := by
  have hfree : writeLen s = s.cap - q.length := by rw [h.len_eq]; rfl
  cases op with
  | write vals n ts =>
    by_cases hlen : s.cap - q.length < vals.length
    · exact ⟨.badop, .inl ⟨by simp [step, hfree, hlen], by simp [Fifo.step, hlen]⟩⟩
    · have hfit : vals.length ≤ free s := by rw [← hfree] at hlen; exact Nat.not_lt.mp hlen
      obtain ⟨s', e, hs'⟩ := sim_produce h vals n (ts.map ofR) hfit hv.1
        (by intro t htm; obtain ⟨r, hr, rfl⟩ := List.mem_map.mp htm; exact hv.2 r hr)
      exact ⟨.ok, .inr ⟨s', _, by simp [step, hfree, hlen, e], by simp [Fifo.step, hlen],
        specTags_ofR ts ▸ hs', (produce_some e).1⟩⟩
  | overcommit extra =>
    have : produce s (writeLen s + 1 + extra) [] = none :=
      produce_refused _ _ (by unfold writeLen; omega)
    exact ⟨.refused, .inl ⟨by simp [step, this], rfl⟩⟩
  | read =>
    exact ⟨_, .inr ⟨s, q, by simp [step, window_eq h, readTags_spec h, hfree], rfl, h, rfl⟩⟩
  | consume m =>
    by_cases hm : q.length < m
    · exact ⟨.refused, .inl ⟨by simp [step, consume_refused m (h.len_eq ▸ hm)],
        by simp [Fifo.step, hm]⟩⟩
    · obtain ⟨s', e, hs'⟩ := sim_consume h m (by rw [← h.len_eq]; omega)
      exact ⟨.ok, .inr ⟨s', _, by simp [step, e], by simp [Fifo.step, hm], hs',
        (consume_some e).1⟩⟩
  | free =>
    exact ⟨_, .inr ⟨s, q, by simp [step, free, h.len_eq], rfl, h, rfl⟩⟩

theorem run_sim {s : State} {q : Fifo.Q} (h : Sim s q) (ops : List Fifo.Op)
    (hv : ∀ op ∈ ops, op.Valid) : run s ops = Fifo.run s.cap q ops := by
  induction ops generalizing s q with
  | nil => rfl
  | cons op ops ih =>
    obtain ⟨o, ⟨e1, e2⟩ | ⟨s', q', e1, e2, hsim, hcap⟩⟩ := step_sim h op (hv op (by simp))
    · simp only [run, Fifo.run, e1, e2]
    · simp only [run, Fifo.run, e1, e2]
      rw [ih hsim (fun o ho => hv o (by simp [ho])), hcap]

theorem exec_sim {s : State} {q : Fifo.Q} (h : Sim s q) (ops : List Fifo.Op)
    (hv : ∀ op ∈ ops, op.Valid) {s' : State} (he : exec s ops = some s') :
    ∃ q', Sim s' q' ∧ s'.cap = s.cap := by
  induction ops generalizing s q with
  | nil => cases he; exact ⟨q, h, rfl⟩
  | cons op ops ih =>
    obtain ⟨o, ⟨e1, -⟩ | ⟨s₁, q₁, e1, -, hsim, hcap⟩⟩ := step_sim h op (hv op (by simp))
    · simp [exec, e1] at he
    · simp only [exec, e1] at he
      obtain ⟨q', h1, h2⟩ := ih hsim (fun o ho => hv o (by simp [ho])) he
      exact ⟨q', h1, h2.trans hcap⟩

end RR.Ring
