import RR.Model.Conv

/-! `StreamToPdu`: a per-sample automaton — chunking is immaterial, PDUs are bounded. -/
namespace RR.Blk

theorem s2pLoop_append (key maxSize tail : Nat) (tags : List Tag) (a b : List Nat) (i : Nat) (st : S2P)
    (out : List (List Nat)) :
    s2pLoop key maxSize tail tags (a ++ b) i st out =
      s2pLoop key maxSize tail tags b (i + a.length) (s2pLoop key maxSize tail tags a i st out).1
        (s2pLoop key maxSize tail tags a i st out).2 := by
  fun_induction s2pLoop key maxSize tail tags a i st out with
  | case1 => rfl
  | case2 s rest i st out e st' hstep ih =>
    simp only [List.cons_append, s2pLoop, hstep, ih, List.length_cons, Nat.add_right_comm i 1, Nat.add_assoc]

theorem clip_bound (maxSize : Nat) (st2 : S2P) :
    (if st2.buf.length > maxSize then ({ buf := [], endcounter := none } : S2P) else st2).buf.length ≤ maxSize := by
  split
  · simp
  · omega

theorem s2pStep_bound (key maxSize tail : Nat) (tv : Option Bool) (st : S2P) (s : Nat)
    (h : st.buf.length ≤ maxSize) :
    (s2pStep key maxSize tail tv st s).2.buf.length ≤ maxSize ∧
    ∀ p, (s2pStep key maxSize tail tv st s).1 = some p → p.length ≤ maxSize := by
  unfold s2pStep
  constructor
  · -- the last thing a step does is to drop a buffer that has grown beyond `max_size`
    exact clip_bound maxSize _
  · intro p hp
    simp only at hp
    split at hp
    · simp at hp; rw [← hp]; exact h
    · simp at hp

theorem s2pLoop_bound (key maxSize tail : Nat) (tags : List Tag) (xs : List Nat) (i : Nat) (st : S2P)
    (out : List (List Nat)) (h1 : st.buf.length ≤ maxSize) (h2 : ∀ p ∈ out, p.length ≤ maxSize) :
    (s2pLoop key maxSize tail tags xs i st out).1.buf.length ≤ maxSize ∧
    ∀ p ∈ (s2pLoop key maxSize tail tags xs i st out).2, p.length ≤ maxSize := by
  fun_induction s2pLoop key maxSize tail tags xs i st out with
  | case1 => exact ⟨h1, h2⟩
  | case2 s rest i st out e st' hstep ih =>
    have hs := s2pStep_bound key maxSize tail (tagBoolAt tags key i) st s h1
    rw [hstep] at hs
    refine ih hs.1 fun p hp => ?_
    cases e with
    | none => exact h2 p hp
    | some q =>
      rcases List.mem_append.mp hp with hold | hnew
      · exact h2 p hold
      · rw [List.mem_singleton.mp hnew]; exact hs.2 q rfl

end RR.Blk
