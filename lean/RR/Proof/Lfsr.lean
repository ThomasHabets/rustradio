import RR.Spec.Lfsr
import RR.Proof.GetD
import RR.Proof.Sync

/-!
The G3RUH descrambler (`Lfsr::next` with mask 0x21, length 16) as a function of
the input HISTORY: `out[n] = in[n] xor in[n-12] xor in[n-17]`; it inverts the
scrambler `s[n] = d[n] xor s[n-12] xor s[n-17]` and forgets its initial register
after 17 bits (self-synchronising).
-/
namespace RR.Lfsr
open RR.Blk

theorem and_eq_mod_and (x m n : Nat) (hm : m < 2 ^ n) : x &&& m = (x % 2 ^ n) &&& m := by
  have h := Nat.and_mod_two_pow (a := x) (b := m) (n := n)
  rwa [Nat.mod_eq_of_lt (Nat.lt_of_le_of_lt Nat.and_le_right hm), Nat.mod_eq_of_lt hm] at h

/-- The feedback parity: the mask `0x21` sees bits 0 and 5, so the low six bits of the register decide. -/
theorem parity_mask (reg : Nat) : popcount 64 (reg &&& 0x21) % 256 % 2 = (reg % 2) ^^^ (reg / 32 % 2) := by
  have hall : (List.range 64).all (fun lo =>
      popcount 64 (lo &&& 0x21) % 256 % 2 == (lo % 2) ^^^ (lo / 32 % 2)) = true := by decide +kernel
  have h := beq_iff_eq.mp (List.all_eq_true.mp hall (reg % 64) (List.mem_range.mpr (Nat.mod_lt _ (by decide))))
  rwa [← and_eq_mod_and reg 0x21 6 (by decide), Nat.mod_mod_of_dvd reg (by decide : 2 ∣ 64),
    (Nat.mod_mul_right_div_self reg 32 2 : reg % 64 / 32 = _), Nat.mod_mod] at h

theorem lfsrNext_bits (reg i : Nat) (hr : reg < 2 ^ 17) (hi : i < 2) :
    lfsrNext 0x21 16 reg i = some (reg / 2 + i * 2 ^ 16, (reg % 2) ^^^ (reg / 32 % 2) ^^^ i) := by
  have hlo : reg >>> 1 < 2 ^ 16 := by rw [Nat.shiftRight_eq_div_pow]; omega
  have hor : (reg >>> 1 ||| i <<< 16) % 2 ^ 64 = reg / 2 + i * 2 ^ 16 := by
    rw [Nat.or_comm, ← Nat.shiftLeft_add_eq_or_of_lt hlo, Nat.shiftLeft_eq, Nat.shiftRight_eq_div_pow,
      Nat.mod_eq_of_lt (by omega)]
    omega
  simp only [lfsrNext, Nat.mod_eq_of_lt hi, parity_mask, hor]

/-- The register that holds the newest `n` entries of the history, the newest at bit `n - 1`. `enc` is `val 17`;
the recursion is the register's shift: the oldest entry is the lowest bit. -/
def val : Nat → List Nat → Nat
  | 0, _ => 0
  | n + 1, hist => 2 * val n hist + hist.getD n 0

theorem enc_eq_val (hist : List Nat) : enc hist = val 17 hist := by
  simp +arith only [enc, val]

theorem val_lt (hist : List Nat) (h : ∀ k, hist.getD k 0 < 2) (n : Nat) : val n hist < 2 ^ n := by
  induction n with
  | zero => exact Nat.one_pos
  | succ n ih => have := h n; rw [val, Nat.pow_succ]; omega

theorem val_cons (i : Nat) (hist : List Nat) (n : Nat) : val (n + 1) (i :: hist) = val n hist + i * 2 ^ n := by
  induction n with
  | zero => simp [val]
  | succ n ih => rw [val, ih, val, List.getD_cons_succ, Nat.pow_succ, ← Nat.mul_assoc]; omega

theorem val_mod_two (hist : List Nat) (n : Nat) (h : hist.getD n 0 < 2) : val (n + 1) hist % 2 = hist.getD n 0 := by
  rw [val]; omega

/-- Shifting down by `k` forgets the `k` oldest entries. -/
theorem val_div (hist : List Nat) (h : ∀ k, hist.getD k 0 < 2) (n k : Nat) :
    val (n + k) hist / 2 ^ k = val n hist := by
  induction k with
  | zero => exact Nat.div_one _
  | succ k ih =>
    have := h (n + k)
    rw [← Nat.add_assoc, val, Nat.pow_succ', ← Nat.div_div_eq_div_mul,
      (by omega : (2 * val (n + k) hist + hist.getD (n + k) 0) / 2 = val (n + k) hist), ih]

/-- One clock of the register that holds the history. -/
theorem lfsrNext_enc (hist : List Nat) (h : ∀ k, hist.getD k 0 < 2) (i : Nat) (hi : i < 2) :
    lfsrNext 0x21 16 (enc hist) i = some (enc (i :: hist), i ^^^ hist.getD 11 0 ^^^ hist.getD 16 0) := by
  rw [enc_eq_val, enc_eq_val, lfsrNext_bits _ i (val_lt hist h 17) hi, val_div hist h 16 1, val_cons i hist 16,
    val_mod_two hist 16 (h 16), val_div hist h 12 5, val_mod_two hist 11 (h 11),
    Nat.xor_comm (hist.getD 16 0), Nat.xor_comm _ i, Nat.xor_assoc]

theorem lfsrRun_eq_descrL (l : List Nat) (hl : ∀ x ∈ l, x < 2) (hist : List Nat) (hh : ∀ x ∈ hist, x < 2) :
    lfsrRun (enc hist) l = descrL hist l := by
  fun_induction descrL hist l with
  | case1 => rfl
  | case2 hist i rest ih =>
    obtain ⟨hi, hrest⟩ := List.forall_mem_cons.mp hl
    simp only [lfsrRun, lfsrNext_enc hist (getD_of_forall_mem hh (by decide)) i hi,
      ih hrest (List.forall_mem_cons.mpr ⟨hi, hh⟩)]

theorem descrL_take17 (l : List Nat) : ∀ h1 h2 : List Nat, h1.take 17 = h2.take 17 → descrL h1 l = descrL h2 l := by
  induction l with
  | nil => intro _ _ _; rfl
  | cons i rest ih =>
    intro h1 h2 h
    have g : ∀ k, k < 17 → h1.getD k 0 = h2.getD k 0 := fun k hk => by
      simpa [List.getD_eq_getElem?_getD, hk] using congrArg (fun l => l.getD k 0) h
    simp only [descrL]
    rw [g 11 (by omega), g 16 (by omega)]
    congr 1
    apply ih
    simpa [List.take_take] using congrArg (fun l => i :: l.take 16) h

theorem descrL_append (a b hist : List Nat) :
    descrL hist (a ++ b) = descrL hist a ++ descrL (a.reverse ++ hist) b := by
  induction a generalizing hist with
  | nil => rfl
  | cons x rest ih =>
    simp only [List.cons_append, descrL, ih, List.reverse_cons, List.append_assoc, List.nil_append]

theorem scrL_append (a b hist : List Nat) :
    scrL hist (a ++ b) = scrL hist a ++ scrL ((scrL hist a).reverse ++ hist) b := by
  induction a generalizing hist with
  | nil => rfl
  | cons x rest ih =>
    simp only [List.cons_append, scrL, ih, List.reverse_cons, List.append_assoc, List.nil_append]

theorem scrL_length (l hist : List Nat) : (scrL hist l).length = l.length := by
  induction l generalizing hist with
  | nil => rfl
  | cons x rest ih => simp [scrL, ih]

theorem descrL_length (l hist : List Nat) : (descrL hist l).length = l.length := by
  induction l generalizing hist with
  | nil => rfl
  | cons x rest ih => simp [descrL, ih]

theorem descr_scr (l hist : List Nat) : descrL hist (scrL hist l) = l := by
  induction l generalizing hist with
  | nil => rfl
  | cons d rest ih =>
    simp only [scrL, descrL, ih]
    congr 1
    -- xoring the feedback `hist[11] ^^^ hist[16]` in twice
    rw [Nat.xor_assoc d, Nat.xor_assoc (d ^^^ _), Nat.xor_assoc d, Nat.xor_self, Nat.xor_zero]

/-- Self-synchronisation: whatever the two histories, after 17 scrambled bits the descrambler holds the
scrambler's and returns the data. -/
theorem descr_sync (h h' A F : List Nat) (hA : 17 ≤ A.length) :
    descrL h (scrL h' (A ++ F)) = descrL h (scrL h' A) ++ F := by
  have h17 : 17 ≤ (scrL h' A).reverse.length := by rw [List.length_reverse, scrL_length]; exact hA
  rw [scrL_append, descrL_append, descrL_take17 _ ((scrL h' A).reverse ++ h) ((scrL h' A).reverse ++ h')
    (by rw [List.take_append_of_le_length h17, List.take_append_of_le_length h17]), descr_scr]

theorem scrL_bits (l hist : List Nat) (hl : ∀ x ∈ l, x < 2) (hh : ∀ x ∈ hist, x < 2) :
    ∀ x ∈ scrL hist l, x < 2 := by
  induction l generalizing hist with
  | nil => exact fun _ h => nomatch h
  | cons d rest ih =>
    obtain ⟨hd, hr⟩ := List.forall_mem_cons.mp hl
    have ho : d ^^^ hist.getD 11 0 ^^^ hist.getD 16 0 < 2 :=
      Nat.xor_lt_two_pow (n := 1) (Nat.xor_lt_two_pow (n := 1) hd (getD_of_forall_mem hh (by decide) 11))
        (getD_of_forall_mem hh (by decide) 16)
    simp only [scrL]
    exact List.forall_mem_cons.mpr ⟨ho, ih _ hr (List.forall_mem_cons.mpr ⟨ho, hh⟩)⟩

/-- The `Descrambler` block's generated loop clocks the register over input 0, whatever its seed. -/
theorem descrambler_loop (seed : Nat) (get : Nat → List Nat × List (List Tag)) (reg pos k : Nat) :
    ∃ st ts, syncLoopG (descrambler 0x21 seed 16) get reg pos k =
      some (st, (lfsrRun reg ((List.range k).map fun p => (get (pos + p)).1.getD 0 0)).map ([·]), ts) := by
  obtain ⟨st, h⟩ := pureRun_eq_some
    (fun reg xs => (lfsrNext 0x21 16 reg (xs.getD 0 0)).map fun (r, o) => (r, [o]))
    (fun reg xs => (lfsrRun reg (xs.map (·.getD 0 0))).map ([·])) (fun _ => rfl)
    ((List.range' pos k).map fun p => (get p).1) (fun _ _ _ _ => ⟨_, _, rfl, rfl⟩) reg
  unfold descrambler
  rw [syncLoopG_pureSync, h, List.range'_eq_map_range, List.map_map, List.map_map]
  exact ⟨_, _, rfl⟩

end RR.Lfsr
