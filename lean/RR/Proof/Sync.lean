import RR.Spec.Sync
import RR.Model.Blocks

/-!
Chunk independence of the whole `sync` / `sync_tag` family: the generated loop is a fold over
positions, so a run on a window is the run on the full history, shifted (`syncLoopG_shift`), runs
compose (`syncLoopG_append`), and any sequence of calls (`driveG`) is the one-shot loop.
`winView` / `viewAt_window` tie the windows `syncWork` is shown to positions of the full history.
For a plain `sync` block the loop is its function run over the input rows (`pureRun`, `syncLoopG_pureSync`).
-/
namespace RR.Blk

/-- One step of the loop in `bind`/`map` form: the only place where its two matches are opened. -/
theorem syncLoopG_succ (S : SyncSpec) (get : Nat → List Nat × List (List Tag)) (st : S.σ) (pos k : Nat) :
    syncLoopG S get st pos (k + 1) =
      (S.f st (get pos).1 (get pos).2).bind fun r =>
        (syncLoopG S get r.1 (pos + 1) k).map fun q =>
          (q.1, r.2.1 :: q.2.1, (r.2.2.map fun t => { t with pos := pos }) ++ q.2.2) := by
  rw [syncLoopG]
  cases S.f st (get pos).1 (get pos).2 with
  | none => rfl
  | some r =>
    obtain ⟨st1, outs, ots⟩ := r
    simp only [Option.bind_some]
    cases syncLoopG S get st1 (pos + 1) k <;> rfl

/-- Running on a window that starts at absolute position `c` is running on the
full history from `c`, with tag positions relative to the window. -/
theorem syncLoopG_shift (S : SyncSpec) (getW getF : Nat → List Nat × List (List Tag)) (c : Nat)
    (st : S.σ) (pos k : Nat) (h : ∀ p, pos ≤ p → p < pos + k → getW p = getF (c + p)) :
    shiftRes c (syncLoopG S getW st pos k) = syncLoopG S getF st (c + pos) k := by
  induction k generalizing st pos with
  | zero => rfl
  | succ k ih =>
    rw [syncLoopG_succ, syncLoopG_succ, ← h pos (Nat.le_refl _) (by omega)]
    cases S.f st (getW pos).1 (getW pos).2 with
    | none => rfl
    | some r =>
      rw [Option.bind_some, Option.bind_some, Nat.add_assoc, ← ih r.1 (pos + 1) fun p h1 h2 => h p (by omega) (by omega)]
      cases syncLoopG S getW r.1 (pos + 1) k with
      | none => rfl
      | some q => simp [shiftRes, shiftTags, Nat.add_comm]

theorem syncLoopG_append (S : SyncSpec) (get : Nat → List Nat × List (List Tag))
    (st : S.σ) (pos a b : Nat) :
    syncLoopG S get st pos (a + b) =
      (syncLoopG S get st pos a).bind fun r1 =>
        (syncLoopG S get r1.1 (pos + a) b).map fun r2 => (r2.1, r1.2.1 ++ r2.2.1, r1.2.2 ++ r2.2.2) := by
  induction a generalizing st pos with
  | zero => simp [syncLoopG]
  | succ a ih =>
    -- one step on both sides, then associativity of `bind` and of `++`
    rw [show a + 1 + b = (a + b) + 1 by omega, syncLoopG_succ, syncLoopG_succ]
    simp [ih, Option.map_bind, Option.bind_map, Option.bind_assoc, Function.comp_def, Nat.add_assoc, Nat.add_comm 1 a]

theorem syncLoopG_total (S : SyncSpec) (hf : ∀ s xs ts, (S.f s xs ts).isSome = true)
    (get : Nat → List Nat × List (List Tag)) (st : S.σ) (pos k : Nat) : syncLoopG S get st pos k ≠ none := by
  induction k generalizing st pos with
  | zero => nofun
  | succ k ih =>
    obtain ⟨r, hr⟩ := Option.isSome_iff_exists.mp (hf st (get pos).1 (get pos).2)
    obtain ⟨q, hq⟩ := Option.ne_none_iff_exists'.mp (ih r.1 (pos + 1))
    rw [syncLoopG_succ, hr, Option.bind_some, hq]
    nofun

theorem syncLoopG_rows_length (S : SyncSpec) {get : Nat → List Nat × List (List Tag)}
    {st : S.σ} {pos k : Nat} {st' : S.σ} {rows : List (List Nat)} {ts : List Tag}
    (h : syncLoopG S get st pos k = some (st', rows, ts)) : rows.length = k := by
  induction k generalizing st pos rows ts with
  | zero => cases h; rfl
  | succ k ih =>
    rw [syncLoopG_succ] at h
    obtain ⟨r, -, h⟩ := Option.bind_eq_some_iff.mp h
    obtain ⟨q, hq, h⟩ := Option.map_eq_some_iff.mp h
    cases h
    exact congrArg (· + 1) (ih hq)

/-- How much of the remaining input is visible and how much output space there
is at one `work()` call: chosen by an adversary. -/
structure Choice where
  n : Nat   -- `min(shortest input window, smallest output space)` at this call; 0 = the block waits

theorem driveG_eq_oneShot (S : SyncSpec) (get : Nat → List Nat × List (List Tag))
    (st : S.σ) (c : Nat) (chunks : List Nat) :
    driveG S get st c chunks =
      (syncLoopG S get st c chunks.sum).map fun (s, rows, ts) => (s, c + chunks.sum, rows, ts) := by
  induction chunks generalizing st c with
  | nil => simp [driveG, syncLoopG]
  | cons n rest ih =>
    have hs := syncLoopG_shift S (fun p => get (c + p)) get c st 0 n fun _ _ _ => rfl
    rw [Nat.add_zero] at hs
    simp only [driveG, List.sum_cons, hs, syncLoopG_append]
    cases syncLoopG S get st c n with
    | none => rfl
    | some r1 =>
      simp only [Option.bind_some, ih]
      cases syncLoopG S get r1.1 (c + n) rest.sum with
      | none => rfl
      | some r2 => simp [Nat.add_assoc]

theorem win_sample (full : InView) (c a p : Nat) (hp : p < a) :
    (winView full c a).samples.getD p 0 = full.samples.getD (c + p) 0 := by
  simp only [winView, List.getD_eq_getElem?_getD, List.getElem?_take_of_lt hp, List.getElem?_drop]

theorem win_tags (full : InView) (c a p : Nat) (hp : p < a) :
    ((winView full c a).tags.filter fun t => t.pos == p).map (fun t => { t with pos := 0 }) =
    (full.tags.filter fun t => t.pos == c + p).map (fun t => { t with pos := 0 }) := by
  simp only [winView, List.filter_map, List.filter_filter, List.map_map]
  congr 1
  apply List.filter_congr
  intro t _
  -- a tag is at window position `p` and inside the window iff it is at `c + p` in the history
  rw [Bool.eq_iff_iff]
  simp only [Function.comp, Bool.and_eq_true, beq_iff_eq, decide_eq_true_eq]
  omega

theorem zipWith_eq_map {α β γ} (f : α → β → γ) (h : α → γ) (l1 : List α) (l2 : List β)
    (hl : l1.length ≤ l2.length) (hf : ∀ x y, (x, y) ∈ l1.zip l2 → f x y = h x) :
    List.zipWith f l1 l2 = l1.map h := by
  -- both sides are maps over `l1.zip l2`
  rw [← List.map_uncurry_zip_eq_zipWith, ← congrArg (List.map h) (List.map_fst_zip hl), List.map_map]
  exact List.map_congr_left fun p hp => hf p.1 p.2 hp

/-- What the per-sample function is given at window position `p` is what the
full histories hold at absolute position `c + p`. -/
theorem viewAt_window (fulls : List InView) (avs : List Nat) (c p : Nat)
    (hl : fulls.length ≤ avs.length) (hp : ∀ a ∈ avs, p < a) :
    viewAt (List.zipWith (fun full a => winView full c a) fulls avs) p = viewAt fulls (c + p) := by
  unfold viewAt
  simp only [List.map_zipWith]
  congr 1
  · apply zipWith_eq_map _ _ _ _ hl
    intro x y hxy
    exact win_sample x c y p (hp y (List.of_mem_zip hxy).2)
  · apply zipWith_eq_map _ _ _ _ hl
    intro x y hxy
    exact win_tags x c y p (hp y (List.of_mem_zip hxy).2)

def pureRun {σ : Type} (g : σ → List Nat → Option (σ × List Nat)) :
    σ → List (List Nat) → Option (σ × List (List Nat))
  | st, [] => some (st, [])
  | st, x :: xs =>
    match g st x with
    | none => none
    | some (st1, ys) => (pureRun g st1 xs).map fun r => (r.1, ys :: r.2)

/-- A spec whose per-sample function is a plain `g` that hands on the tags of input 0: the loop is `g` run
over the rows at positions `pos, …, pos + k - 1`, every tag of input 0 at its own position. Stated for a
variable `S`: with `pureSync … g` in its place the state has type `(pureSync … g).σ`, which `rw` does not
see to be `σ`, and `syncLoopG_succ` cannot be rewritten with. -/
theorem syncLoopG_pure (S : SyncSpec) (g : S.σ → List Nat → Option (S.σ × List Nat))
    (hf : ∀ st xs tags, S.f st xs tags = (g st xs).map fun r => (r.1, r.2, tags.headD []))
    (get : Nat → List Nat × List (List Tag)) (st : S.σ) (pos k : Nat) :
    syncLoopG S get st pos k =
      (pureRun g st ((List.range' pos k).map fun p => (get p).1)).map fun r =>
        (r.1, r.2, (List.range' pos k).flatMap fun p => ((get p).2.headD []).map fun t => { t with pos := p }) := by
  induction k generalizing st pos with
  | zero => rfl
  | succ k ih =>
    rw [syncLoopG_succ, hf, List.range'_succ, List.map_cons, pureRun]
    cases g st (get pos).1 with
    | none => rfl
    | some r =>
      obtain ⟨st1, ys⟩ := r
      rw [Option.map_some, Option.bind_some, ih]
      dsimp only
      cases pureRun g st1 ((List.range' (pos + 1) k).map fun p => (get p).1) <;> rfl

theorem syncLoopG_pureSync (σ : Type) (init : σ) (nin nout : Nat) (g : σ → List Nat → Option (σ × List Nat))
    (get : Nat → List Nat × List (List Tag)) (st : σ) (pos k : Nat) :
    syncLoopG (pureSync σ init nin nout g) get st pos k =
      (pureRun g st ((List.range' pos k).map fun p => (get p).1)).map fun r =>
        (r.1, r.2, (List.range' pos k).flatMap fun p => ((get p).2.headD []).map fun t => { t with pos := p }) :=
  syncLoopG_pure (pureSync σ init nin nout g) g (fun st xs _ => by simp only [pureSync]; cases g st xs <;> rfl)
    get st pos k

/-- `pureRun g` is determined by `g`: a `spec` that returns no row on no rows and, on a first row where `g` returns
`(s', ys)`, returns `ys` followed by what it returns from `s'` on the others, is the output of the run. -/
theorem pureRun_eq_some {σ : Type} (g : σ → List Nat → Option (σ × List Nat))
    (spec : σ → List (List Nat) → List (List Nat)) (h0 : ∀ s, spec s [] = []) (xs : List (List Nat))
    (h1 : ∀ s, ∀ x ∈ xs, ∀ rest, ∃ s' ys, g s x = some (s', ys) ∧ spec s (x :: rest) = ys :: spec s' rest) (st : σ) :
    ∃ st', pureRun g st xs = some (st', spec st xs) := by
  induction xs generalizing st with
  | nil => exact ⟨st, congrArg (fun l => some (st, l)) (h0 st).symm⟩
  | cons x xs ih =>
    obtain ⟨s', ys, e1, e2⟩ := h1 st x (List.mem_cons_self ..) xs
    obtain ⟨st', e⟩ := ih (fun s y hy => h1 s y (List.mem_cons_of_mem _ hy)) s'
    exact ⟨st', by simp only [pureRun, e1, e, e2, Option.map_some]⟩

end RR.Blk
