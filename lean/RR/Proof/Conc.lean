import RR.Proof.Ring

/-! Invariant of the two-thread protocol, by induction over arbitrary schedules: the shared ring
simulates the queue of committed-and-unconsumed samples (the relation of C01), and each live
window is a snapshot that the other side can only make more conservative. -/
namespace RR.Conc
open RR RR.Ring

theorem inv_init {cap : Nat} (h : 0 < cap) : Inv cap (init cap) :=
  ⟨rfl, sim_init h, rfl, fun _ hw => (nomatch hw), fun _ hr => (nomatch hr)⟩

theorem Inv.mem_hist {cap : Nat} {s : State} (h : Inv cap s) (i : Nat) (hi : i < s.ring.used) :
    s.ring.mem ((s.ring.rpos + i) % s.ring.cap) = s.hist.getD (s.consumed + i) 0 := by
  rw [h.sim.mem_eq i hi, queue, getD_map (fun v => (v, [])) _ i 0, getD_drop]

theorem Inv.cell_ne {cap : Nat} {s : State} (h : Inv cap s) {w : Win} (hw : s.pw = some w)
    {i j : Nat} (hi : i < w.len) (hj : j < s.ring.used) :
    cellOf s w i ≠ (s.ring.rpos + j) % s.ring.cap := by
  obtain ⟨hs, hl⟩ := h.pw_ok w hw
  rw [cellOf, hs]
  exact h.sim.wcell_ne (Nat.lt_of_lt_of_le hi hl) hj

theorem queue_commit (s : State) (r : Ring.State) (hc : s.consumed ≤ s.hist.length) (n : Nat)
    (f : Nat → Nat) :
    queue { s with ring := r, pw := none, hist := s.hist ++ (List.range n).map f } =
      Fifo.commit (queue s) ((List.range n).map f) n (specTags []) := by
  simp only [queue, Fifo.commit, Fifo.enq, List.drop_append_of_le_length hc, List.map_append,
    List.map_map]
  congr 1
  refine List.map_congr_left fun i hi => ?_
  rw [getD_map_range f 0 (List.mem_range.mp hi)]; rfl

theorem inv_step {cap : Nat} {s : State} (h : Inv cap s) (st : Step) : Inv cap (step s st).1 := by
  fun_cases step s st
  case case2 =>  -- acqW
    exact ⟨h.cap_eq, h.sim, h.hist_len, fun w hw => by cases hw; exact ⟨rfl, Nat.le_refl _⟩,
      h.pr_ok⟩
  case case3 i v w hw hi _ =>  -- put
    exact ⟨h.cap_eq, h.sim.set_mem _ fun j hj => if_neg fun e => h.cell_ne hw hi hj e.symm,
      h.hist_len, h.pw_ok, h.pr_ok⟩
  case case6 n w hw hn r e vals =>  -- commit
    obtain ⟨hs, hl⟩ := h.pw_ok w hw
    obtain ⟨r', e', hr⟩ := sim_commit h.sim [] (Nat.le_trans hn hl)
      (fun j hj => Eq.symm (getD_map_range _ _ hj)) (fun _ ht => (nomatch ht))
    cases e.symm.trans e'
    obtain ⟨hrc, hrp, hru⟩ := produce_some e
    refine ⟨hrc.trans h.cap_eq, ?_, ?_, fun _ hw => (nomatch hw), fun w hw => ?_⟩
    · simp only [vals, cellOf, hs]
      rw [queue_commit s r (by rw [h.hist_len]; omega)]
      exact hr
    · simp [vals, h.hist_len]; omega
    · obtain ⟨a, b⟩ := h.pr_ok w hw
      exact ⟨a.trans hrp.symm, by rw [hru]; omega⟩
  case case11 =>  -- acqR
    exact ⟨h.cap_eq, h.sim, h.hist_len, h.pw_ok,
      fun w hw => by cases hw; exact ⟨rfl, Nat.le_refl _⟩⟩
  case case15 m w hw hm r e =>  -- consume
    obtain ⟨hs, hl⟩ := h.pr_ok w hw
    obtain ⟨r', e', hr⟩ := sim_consume h.sim m (Nat.le_trans hm hl)
    cases e.symm.trans e'
    obtain ⟨hrc, hrw, hru⟩ := consume_some e
    refine ⟨hrc.trans h.cap_eq, ?_, ?_, fun w hw => ?_, fun _ hr => (nomatch hr)⟩
    · simpa only [queue, Fifo.consume, List.map_drop, List.drop_drop] using hr
    · simp only [h.hist_len]; omega
    · obtain ⟨a, b⟩ := h.pw_ok w hw
      unfold Ring.free at b ⊢
      exact ⟨a.trans hrw.symm, by rw [hrc, hru]; omega⟩
  -- every other branch (a blocked step, `get`, `peek`) returns `s` itself
  all_goals exact h

theorem inv_run {cap : Nat} {s : State} (h : Inv cap s) (sched : List Step) :
    Inv cap (run s sched) := by
  induction sched generalizing s with
  | nil => exact h
  | cons st rest ih => exact ih (inv_step h st)

end RR.Conc
