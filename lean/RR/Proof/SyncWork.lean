import RR.Proof.Sync
import RR.Model.Hand

/-!
One generated `work()` call (C09, C15, C19). `syncWork` is opened in three equations, one per way through it
(`syncWork_eq_waitIn`, `_waitOut`, `_steps`); the step count is characterised once, as the greatest lower
bound of `u64::MAX`, every read window and every output space (`le_stepsOf_iff`).
-/
namespace RR.Blk

theorem le_foldl_min_iff (l : List Nat) (init k : Nat) :
    k ≤ l.foldl min init ↔ k ≤ init ∧ ∀ x ∈ l, k ≤ x := by
  induction l generalizing init with
  | nil => simp
  | cons y ys ih => simp [ih, Nat.le_min, and_assoc]

/-- `stepsOf` is the largest count that fits a `u64`, every read window and every output space. -/
theorem le_stepsOf_iff (v : View) (k : Nat) :
    k ≤ stepsOf v ↔ k ≤ 2 ^ 64 - 1 ∧ (∀ i ∈ v.ins, k ≤ i.samples.length) ∧ ∀ o ∈ v.outs, k ≤ o.free := by
  simp [stepsOf, minList, le_foldl_min_iff, and_assoc]

theorem stepsOf_le_in (v : View) (i : InView) (hi : i ∈ v.ins) : stepsOf v ≤ i.samples.length :=
  ((le_stepsOf_iff v _).mp (Nat.le_refl _)).2.1 i hi

theorem stepsOf_le_out (v : View) (o : OutView) (ho : o ∈ v.outs) : stepsOf v ≤ o.free :=
  ((le_stepsOf_iff v _).mp (Nat.le_refl _)).2.2 o ho

theorem stepsOf_pos (v : View)
    (hin : firstIdx v.ins (fun i => i.samples.isEmpty) = none)
    (hout : firstIdx v.outs (fun o => o.free == 0) = none) : 0 < stepsOf v := by
  refine (le_stepsOf_iff v 1).mpr ⟨by decide, fun i hi => ?_, fun o ho => ?_⟩
  · have := List.findIdx?_eq_none_iff.mp hin i hi
    exact List.length_pos_iff.mpr (by simpa using this)
  · have := List.findIdx?_eq_none_iff.mp hout o ho
    exact Nat.pos_of_ne_zero (by simpa using this)

theorem syncWork_eq_waitIn (S : SyncSpec) (st : S.σ) (v : View) (k : Nat)
    (h : firstIdx v.ins (fun i => i.samples.isEmpty) = some k) :
    syncWork S st v = (st, noOut v (.waitIn k 1)) := by
  simp only [syncWork, h, noOut]

theorem syncWork_eq_waitOut (S : SyncSpec) (st : S.σ) (v : View) (k : Nat)
    (hin : firstIdx v.ins (fun i => i.samples.isEmpty) = none)
    (h : firstIdx v.outs (fun o => o.free == 0) = some k) :
    syncWork S st v = (st, noOut v (.waitOut k 1)) := by
  simp only [syncWork, hin, h, noOut]

theorem firstIdx_of_drained (ins : List InView) (hne : ins ≠ []) (h : ∀ i ∈ ins, i.samples = []) :
    firstIdx ins (fun i => i.samples.isEmpty) = some 0 := by
  cases ins with
  | nil => exact absurd rfl hne
  | cons a t => simp [firstIdx, List.findIdx?_cons, h a (by simp)]

theorem syncWork_waitIn (S : SyncSpec) (st : S.σ) (v : View) (k : Nat)
    (h : firstIdx v.ins (fun i => i.samples.isEmpty) = some k) :
    (syncWork S st v).1 = st ∧ (syncWork S st v).2.verdict = .waitIn k 1 ∧
    (∀ c ∈ (syncWork S st v).2.consumed, c = 0) ∧
    (∃ i, v.ins[k]? = some i ∧ i.samples = []) ∧
    (∀ j, j < k → ∀ i, v.ins[j]? = some i → i.samples ≠ []) := by
  rw [syncWork_eq_waitIn S st v k h]
  obtain ⟨hlt, hp, hmin⟩ := List.findIdx?_eq_some_iff_getElem.mp h
  refine ⟨rfl, rfl, by simp [noOut], ⟨v.ins[k], by simp [hlt], by simpa using hp⟩, ?_⟩
  intro j hj i hi
  obtain ⟨_, rfl⟩ := List.getElem?_eq_some_iff.mp hi
  simpa using hmin j hj

theorem syncWork_waitOut (S : SyncSpec) (st : S.σ) (v : View) (k : Nat)
    (hin : firstIdx v.ins (fun i => i.samples.isEmpty) = none)
    (h : firstIdx v.outs (fun o => o.free == 0) = some k) :
    (syncWork S st v).1 = st ∧ (syncWork S st v).2.verdict = .waitOut k 1 ∧
    (∀ c ∈ (syncWork S st v).2.consumed, c = 0) ∧
    (∃ o, v.outs[k]? = some o ∧ o.free = 0) := by
  rw [syncWork_eq_waitOut S st v k hin h]
  obtain ⟨hlt, hp, _⟩ := List.findIdx?_eq_some_iff_getElem.mp h
  exact ⟨rfl, rfl, by simp [noOut], v.outs[k], by simp [hlt], by simpa using hp⟩

theorem syncWork_eq_steps (S : SyncSpec) (st : S.σ) (v : View)
    (hin : firstIdx v.ins (fun i => i.samples.isEmpty) = none)
    (hout : firstIdx v.outs (fun o => o.free == 0) = none) :
    syncWork S st v =
      match syncLoop S v.ins st 0 (stepsOf v) with
      | none => (st, noOut v .panic)
      | some (st', rows, ts) =>
        (st', { consumed := v.ins.map fun _ => stepsOf v
                produced := (List.range v.outs.length).map fun j => ⟨rows.map fun r => r.getD j 0, ts⟩
                verdict := .again }) := by
  simp only [syncWork, hin, hout]
  rfl

theorem syncWork_steps (S : SyncSpec) (st : S.σ) (v : View)
    (hin : firstIdx v.ins (fun i => i.samples.isEmpty) = none)
    (hout : firstIdx v.outs (fun o => o.free == 0) = none) :
    0 < stepsOf v ∧
    ((syncWork S st v).2.verdict = .panic ∨
     ((syncWork S st v).2.verdict = .again ∧
      (syncWork S st v).2.consumed = v.ins.map (fun _ => stepsOf v) ∧
      (syncWork S st v).2.produced.length = v.outs.length ∧
      ∀ p ∈ (syncWork S st v).2.produced, p.samples.length = stepsOf v)) := by
  refine ⟨stepsOf_pos v hin hout, ?_⟩
  rw [syncWork_eq_steps S st v hin hout]
  cases hl : syncLoop S v.ins st 0 (stepsOf v) with
  | none => exact Or.inl rfl
  | some r =>
    obtain ⟨st', rows, ts⟩ := r
    refine Or.inr ⟨rfl, rfl, by simp, ?_⟩
    intro p hp
    simp only [List.mem_map, List.mem_range] at hp
    obtain ⟨j, _, rfl⟩ := hp
    simp only [List.length_map]
    exact syncLoopG_rows_length S hl

theorem macroEof_iff (v : View) :
    macroEof v = true ↔ ∀ i ∈ v.ins, i.alive = false ∧ i.samples = [] := by
  simp [macroEof, List.all_eq_true]

end RR.Blk
