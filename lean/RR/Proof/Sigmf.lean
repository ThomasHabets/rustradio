import RR.Model.Sigmf

namespace RR.Sigmf

theorem single_eq_some {α} (l : List α) (a : α) : single l = some a ↔ l = [a] := by
  cases l with
  | nil => simp [single]
  | cons x t => cases t <;> simp [single]

theorem single_perm {α} (l1 l2 : List α) (h : l1.Perm l2) : single l1 = single l2 :=
  Option.ext fun a => by
    rw [single_eq_some, single_eq_some]
    exact ⟨fun e => List.perm_singleton.1 (e ▸ h.symm), fun e => List.perm_singleton.1 (e ▸ h)⟩

theorem lookup_eq_some_iff (ms : List Member) (r : Nat × Nat) :
    lookup ms = some r ↔ ∃ m, ms.filter (·.ext == .metaFile) = [m] ∧ m.kind = .regular ∧
      ∃ d, ms.filter (fun x => x.ext == .dataFile && x.stem == m.stem) = [d] ∧ d.kind = .regular ∧
        (d.pos, d.size) = r := by
  simp only [lookup, Option.bind_eq_some_iff, single_eq_some, bne_iff_ne, ne_eq, ite_not,
    Option.ite_none_right_eq_some, Option.some.injEq]

/-- No metadata, several metadata members, no data member or several: an error. -/
theorem lookup_errors (ms : List Member) :
    ((ms.filter (·.ext == .metaFile)).length ≠ 1 → lookup ms = none) ∧
    (∀ m, ms.filter (·.ext == .metaFile) = [m] →
      (ms.filter (fun x => x.ext == .dataFile && x.stem == m.stem)).length ≠ 1 → lookup ms = none) := by
  constructor
  · intro h
    refine Option.eq_none_iff_forall_ne_some.2 fun r hr => ?_
    obtain ⟨m, e1, -⟩ := (lookup_eq_some_iff ms r).1 hr
    exact h (congrArg List.length e1)
  · intro m h1 h2
    refine Option.eq_none_iff_forall_ne_some.2 fun r hr => ?_
    obtain ⟨m', e1, -, d, e2, -⟩ := (lookup_eq_some_iff ms r).1 hr
    cases h1.symm.trans e1
    exact h2 (congrArg List.length e2)

end RR.Sigmf
