import RR.Spec.Blocks
import RR.Proof.Drive
import RR.Proof.DspFftLoop

/-!
The wrapper block (`FftFilterFloat`), for every schedule.

1. **Transparency** (`wrap_drive`): whatever the wrapped block `B` is, if its calls preserve an invariant
   `Inv st c out` ("after consuming `c` samples of the converted input it has emitted `out`"), then under EVERY
   outer schedule of (readable, free) pairs the wrapper's output is `toOut` of a prefix of the wrapped block's
   output, and what is not yet delivered sits in the inner streams — nothing lost, duplicated or reordered by
   the two inner streams, whatever their capacity.
2. **`eof()` soundness** (`wrapEof_sound`): for any wrapped block that emits nothing on a window shorter than
   `need st`. For the FFT filter that is `fftWork_short`: a window that, with its buffer, is shorter than a batch.
-/
namespace RR.Blk

theorem Fifo.commit_notags (q : Fifo) (p : Produced) (h : q.tags = []) (hp : p.tags = []) :
    q.commit p = ⟨q.samples ++ p.samples, []⟩ := by
  simp [Fifo.commit, h, hp]

theorem Fifo.drop_notags (q : Fifo) (k : Nat) (h : q.tags = []) : q.drop k = ⟨q.samples.drop k, []⟩ := by
  simp [Fifo.drop, h]

variable (B : Block) (cap : Nat) (toIn toOut : Nat → Nat) (Xn : List Nat)

theorem wrapWork_notags (s : WrapSt B.σ) (w : List Nat) (al : Bool) (ov : OutView)
    (hqit : s.qin.tags = []) (hqot : s.qout.tags = []) :
    let n := min w.length (cap - s.qin.samples.length)
    let xs := s.qin.samples ++ (w.take n).map toIn
    let ri := B.work s.inner ⟨[⟨xs, [], true⟩], [⟨cap - s.qout.samples.length, true⟩]⟩
    let p := ri.2.produced.getD 0 ⟨[], []⟩
    let ys := s.qout.samples ++ p.samples
    let m := min ys.length ov.free
    p.tags = [] →
    wrapWork B cap toIn toOut s ⟨[⟨w, [], al⟩], [ov]⟩ =
      (⟨ri.1, ⟨xs.drop (ri.2.consumed.getD 0 0), []⟩, ⟨ys.drop m, []⟩⟩,
       { consumed := [n], produced := [⟨(ys.take m).map toOut, []⟩]
         verdict := match ri.2.verdict with
          | .waitIn _ _ => Verdict.waitFunc
          | .waitOut _ _ => Verdict.waitFunc
          | x => x }) := by
  dsimp only
  intro hpt
  unfold wrapWork
  simp only [in0_cons, out0_cons, List.filter_nil, Fifo.commit_notags s.qin ⟨_, []⟩ hqit rfl,
    Fifo.commit_notags _ _ hqot hpt, Fifo.drop_notags ⟨_, []⟩ _ rfl]
  rfl

/-- `WInv` as it is used: the wrapped block has emitted what was delivered (`D₀`, before conversion) followed by what
the inner output stream holds. -/
theorem wInv_iff (Inv : B.σ → Nat → List Nat → Prop) (s : WrapSt B.σ) (C : Nat) (D : List Nat) :
    WInv B toIn toOut Xn Inv s C D ↔ ∃ c D0, Inv s.inner c (D0 ++ s.qout.samples) ∧ c ≤ C ∧ C ≤ Xn.length ∧
      s.qin.samples = ((Xn.map toIn).drop c).take (C - c) ∧ s.qin.tags = [] ∧ s.qout.tags = [] ∧ D = D0.map toOut := by
  constructor
  · rintro ⟨c, out, hInv, hcC, hCX, hqi, hqit, hqot, -, hD, hqo⟩
    exact ⟨c, out.take D.length, by rwa [hqo, List.take_append_drop], hcC, hCX, hqi, hqit, hqot, hD⟩
  · rintro ⟨c, D0, hInv, hcC, hCX, hqi, hqit, hqot, rfl⟩
    exact ⟨c, _, hInv, hcC, hCX, hqi, hqit, hqot, by simp⟩

theorem wrap_step (Inv : B.σ → Nat → List Nat → Prop) (hB : InnerOk B toIn Xn Inv)
    (s : WrapSt B.σ) (C : Nat) (D : List Nat) (a f : Nat) (h : WInv B toIn toOut Xn Inv s C D) :
    let r := wrapWork B cap toIn toOut s ⟨[⟨(Xn.drop C).take a, [], true⟩], [⟨f, true⟩]⟩
    WInv B toIn toOut Xn Inv r.1 (C + r.2.consumed.getD 0 0) (D ++ (r.2.produced.getD 0 ⟨[], []⟩).samples) := by
  obtain ⟨c, D0, hInv, hcC, hCX, hqi, hqit, hqot, rfl⟩ := (wInv_iff B toIn toOut Xn Inv s C D).mp h
  have hwX := window_length_le Xn C a
  have hrun := wrapWork_notags B cap toIn toOut s ((Xn.drop C).take a) true ⟨f, true⟩ hqit hqot
  dsimp only at hrun ⊢
  generalize hn : min ((Xn.drop C).take a).length (cap - s.qin.samples.length) = n at hrun
  have hnw : n ≤ ((Xn.drop C).take a).length := hn ▸ Nat.min_le_left _ _
  -- the inner input stream after the move: the converted history from `c` up to `C + n`
  have hmoved : s.qin.samples ++ (((Xn.drop C).take a).take n).map toIn =
      ((Xn.map toIn).drop c).take (C + n - c) := by
    rw [hqi, window_take Xn C a n hnw, List.map_take, List.map_drop]
    have e : C + n - c = (C - c) + n := by omega
    rw [e, List.take_add, List.drop_drop]
    congr 3
    omega
  rw [hmoved] at hrun
  have hcall := hB s.inner c _ (C + n - c) (cap - s.qout.samples.length) hInv
  generalize B.work s.inner _ = ri at hrun hcall
  obtain ⟨hInv', hk, hpt⟩ := hcall
  rw [hrun hpt]
  simp only [List.getD_cons_zero]
  generalize ri.2.consumed.getD 0 0 = k at hInv' hk
  generalize (ri.2.produced.getD 0 ⟨[], []⟩).samples = ps at hInv'
  generalize min (s.qout.samples ++ ps).length f = m
  have hklen : k ≤ C + n - c := Nat.le_trans hk (List.length_take_le _ _)
  refine (wInv_iff ..).mpr ⟨c + k, D0 ++ (s.qout.samples ++ ps).take m, ?_, by omega, by omega, ?_, rfl, rfl,
    (List.map_append ..).symm⟩
  · rwa [List.append_assoc, List.take_append_drop, ← List.append_assoc]
  · show (((Xn.map toIn).drop c).take (C + n - c)).drop k = ((Xn.map toIn).drop (c + k)).take (C + n - (c + k))
    rw [List.drop_take, List.drop_drop]
    congr 1
    omega

theorem wrap_drive (Inv : B.σ → Nat → List Nat → Prop) (hB : InnerOk B toIn Xn Inv) (need : B.σ → Nat)
    (sched : List (Nat × Nat)) : ∀ (s : WrapSt B.σ) (C : Nat) (D : List Nat), WInv B toIn toOut Xn Inv s C D →
      let r := drive1 (wrapBlock B cap toIn toOut need) Xn s C D sched
      WInv B toIn toOut Xn Inv r.1 r.2.1 r.2.2 :=
  drive1_inv (wrapBlock B cap toIn toOut need) Xn (WInv B toIn toOut Xn Inv)
    (wrap_step B cap toIn toOut Xn Inv hB) sched

/-- what `WInv` says to the outside: the wrapper has delivered a converted prefix of what the wrapped block,
which is no further in the input than the wrapper, has emitted -/
theorem WInv.delivered {Inv : B.σ → Nat → List Nat → Prop} {s : WrapSt B.σ} {C : Nat} {D : List Nat}
    (h : WInv B toIn toOut Xn Inv s C D) :
    C ≤ Xn.length ∧ ∃ c out, Inv s.inner c out ∧ c ≤ C ∧ D <+: out.map toOut := by
  obtain ⟨c, D0, hInv, hcC, hCX, -, -, -, rfl⟩ := (wInv_iff ..).mp h
  exact ⟨hCX, c, _, hInv, hcC, List.map_append ▸ List.prefix_append _ _⟩

theorem wrap_init (Inv : B.σ → Nat → List Nat → Prop) (h0 : Inv B.init 0 []) :
    WInv B toIn toOut Xn Inv ⟨B.init, ⟨[], []⟩, ⟨[], []⟩⟩ 0 [] :=
  (wInv_iff ..).mpr ⟨0, [], h0, Nat.le_refl _, Nat.zero_le _, by simp, rfl, rfl, rfl⟩

/-- The wrapper's `eof()` is sound for ANY wrapped block whose `need` is: if a window shorter than `need st` makes the
wrapped block emit nothing, then after `eof()` answers true (with a reader left) a further call takes and delivers
nothing. The empty outer window adds nothing to the inner input stream, and the inner output stream is empty and stays so. -/
theorem wrapEof_sound (need : B.σ → Nat)
    (hneed : ∀ st w ts f, w.length < need st →
      ((B.work st ⟨[⟨w, ts, true⟩], [⟨f, true⟩]⟩).2.produced.getD 0 ⟨[], []⟩).samples = [])
    (s : WrapSt B.σ) (ts : List Tag) (f : Nat) (h : wrapEof need s ⟨[⟨[], ts, false⟩], [⟨f, true⟩]⟩ = true) :
    let r := wrapWork B cap toIn toOut s ⟨[⟨[], ts, false⟩], [⟨f, true⟩]⟩
    r.2.consumed = [0] ∧ (r.2.produced.getD 0 ⟨[], []⟩).samples = [] := by
  obtain ⟨hqo, hqi⟩ : s.qout.samples = [] ∧ s.qin.samples.length < need s.inner := by
    simpa [wrapEof, macroEof] using h
  simp only [wrapWork, Fifo.commit, in0_cons, out0_cons, List.getD_cons_zero, List.length_nil, Nat.zero_min,
    List.take_zero, List.map_nil, List.append_nil, hqo, hneed _ _ _ _ hqi, and_self]

end RR.Blk

namespace RR.Dsp
open RR.Blk

variable {α : Type}

theorem fft_innerOk (o : Ops α) (cd : Codec α) (taps : List α) (toIn : Nat → Nat) (Xn : List Nat) :
    InnerOk (fftBlock o cd taps) toIn Xn
      (fun st c out => FftInv o cd taps (Xn.map toIn) st c out ∧ st.bufTags = []) := by
  intro st c out a f ⟨hinv, htags⟩
  have hl := fft_step o cd taps (Xn.map toIn) st c out a f [] hinv
  have ht := fftWork_notags o cd taps st (((Xn.map toIn).drop c).take a) true ⟨f, true⟩ htags
  exact ⟨⟨hl.1, ht.1⟩, hl.2, ht.2⟩

end RR.Dsp
