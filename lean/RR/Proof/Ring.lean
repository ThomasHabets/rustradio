import RR.Spec.Sim
import RR.Proof.GetD

/-! The ring refines the FIFO (C01, C02). The relation `Sim s q` puts queue element `i`, with its
tags, in cell `(rpos + i) % cap`; all modular arithmetic goes through the maps offset ↦ cell and
cell ↦ offset, which are inverse (`off_cell`, `cell_off`). `produce` keeps `Sim` for whatever the
write window holds (`sim_commit`), `consume` drops a prefix of the queue (`sim_consume`); on the read
side the key-ordered walk over the tag map followed by the stable sort is a bucket sort of blocks
laid out in rotated order (`sort_blocks`). -/
namespace RR.Ring
open RR

/-- All `%` in the ring have an argument below `2 * cap`. -/
theorem mod2 {a c : Nat} (h : a < 2 * c) : a % c = if a < c then a else a - c := by
  split
  next hlt => exact Nat.mod_eq_of_lt hlt
  next => rw [Nat.mod_eq_sub_mod (by omega)]; exact Nat.mod_eq_of_lt (by omega)

theorem cell_lt {r i c : Nat} (hc : 0 < c) : (r + i) % c < c := Nat.mod_lt _ hc

/-- `k ↦ (k + c - r) % c` (offset of a cell from `r`) undoes `i ↦ (r + i) % c`. -/
theorem off_cell_mod {r c : Nat} (hr : r < c) (i : Nat) : ((r + i) % c + c - r) % c = i % c := by
  rw [Nat.add_sub_assoc (Nat.le_of_lt hr), Nat.mod_add_mod, show r + i + (c - r) = i + c by omega,
    Nat.add_mod_right]

theorem off_cell {r i c : Nat} (hr : r < c) (hi : i < c) : ((r + i) % c + c - r) % c = i := by
  rw [off_cell_mod hr, Nat.mod_eq_of_lt hi]

theorem cell_off {r k c : Nat} (hr : r < c) (hk : k < c) :
    (r + (k + c - r) % c) % c = k := by
  rw [Nat.add_mod_mod, show r + (k + c - r) = k + c by omega, Nat.add_mod_right,
    Nat.mod_eq_of_lt hk]

theorem cell_inj {r i j c : Nat} (hr : r < c) (hi : i < c) (hj : j < c)
    (h : (r + i) % c = (r + j) % c) : i = j := by
  rw [← off_cell hr hi, h, off_cell hr hj]

/-- Cell `k` lies within `m` cells after `r`, cyclically. -/
theorem off_lt_iff {r k c : Nat} (m : Nat) (hr : r < c) (hk : k < c) :
    (k + c - r) % c < m ↔ (r ≤ k ∧ k < r + m) ∨ k + c < r + m := by
  rw [mod2 (a := k + c - r) (by omega)]; split <;> omega

theorem sim_init {cap : Nat} (h : 0 < cap) : Sim (init cap) [] := by
  refine ⟨h, h, Nat.zero_le _, ?_, rfl, ?_, ?_, ?_⟩ <;> simp [init]

/-- `tags_eq` and `tags_out` as one statement over all offsets: the cell at offset `i` holds the
tags of queue element `i`, and a queue has no element `i ≥ used`. -/
theorem Sim.tags_at {s : State} {q : Fifo.Q} (h : Sim s q) (i : Nat) (hi : i < s.cap) :
    s.tags ((s.rpos + i) % s.cap) = (q.getD i (0, [])).2.map
      fun kv => { pos := (s.rpos + i) % s.cap, key := kv.1, val := kv.2 } := by
  by_cases hu : i < s.used
  · exact h.tags_eq i hu
  · rw [h.tags_out _ (cell_lt h.cap_pos) (by rw [off_cell h.rpos_lt hi]; omega),
      getD_of_le _ (by rw [h.len_eq]; omega)]; rfl

theorem Sim.of_tags_at {s : State} {q : Fifo.Q} (cap_pos : 0 < s.cap) (rpos_lt : s.rpos < s.cap)
    (used_le : s.used ≤ s.cap) (wpos_eq : s.wpos = (s.rpos + s.used) % s.cap)
    (len_eq : q.length = s.used)
    (mem_eq : ∀ i, i < s.used → s.mem ((s.rpos + i) % s.cap) = (q.getD i (0, [])).1)
    (tags_at : ∀ i, i < s.cap → s.tags ((s.rpos + i) % s.cap) = (q.getD i (0, [])).2.map
      fun kv => { pos := (s.rpos + i) % s.cap, key := kv.1, val := kv.2 }) : Sim s q := by
  refine ⟨cap_pos, rpos_lt, used_le, wpos_eq, len_eq, mem_eq, fun i hi => tags_at i (by omega), ?_⟩
  intro c hc hoff
  have := tags_at _ (Nat.mod_lt (c + s.cap - s.rpos) cap_pos)
  rwa [cell_off rpos_lt hc, getD_of_le _ (by omega)] at this

/-- The write window seen from `rpos`. -/
theorem Sim.wcell {s : State} {q : Fifo.Q} (h : Sim s q) (i : Nat) :
    (s.wpos + i) % s.cap = (s.rpos + (s.used + i)) % s.cap := by
  rw [h.wpos_eq, Nat.mod_add_mod, Nat.add_assoc]

theorem Sim.wcell_ne {s : State} {q : Fifo.Q} (h : Sim s q) {i j : Nat} (hi : i < free s)
    (hj : j < s.used) : (s.wpos + i) % s.cap ≠ (s.rpos + j) % s.cap := by
  unfold free at hi
  rw [h.wcell]
  intro e
  have := cell_inj h.rpos_lt (by omega) (by omega) e
  omega

/-- Only the readable cells' contents matter. -/
theorem Sim.set_mem {s : State} {q : Fifo.Q} (h : Sim s q) (mem' : Nat → Nat)
    (hm : ∀ i, i < s.used → mem' ((s.rpos + i) % s.cap) = s.mem ((s.rpos + i) % s.cap)) :
    Sim { s with mem := mem' } q :=
  ⟨h.cap_pos, h.rpos_lt, h.used_le, h.wpos_eq, h.len_eq,
    fun i hi => (hm i hi).trans (h.mem_eq i hi), h.tags_eq, h.tags_out⟩

theorem foldl_addTag (ts : List Tag) (s : State) :
    ts.foldl addTag s =
      { s with
        tags := fun k => s.tags k ++ (ts.filter fun t => (t.pos + s.wpos) % s.cap == k).map
          fun t => { pos := k, key := t.key, val := t.val } } := by
  induction ts generalizing s with
  | nil => simp
  | cons t ts ih =>
    rw [List.foldl_cons, ih (addTag s t)]
    simp only [addTag, State.mk.injEq, true_and]
    funext k
    by_cases hk : (t.pos + s.wpos) % s.cap = k
    · simp [hk]
    · simp [hk, Ne.symm hk]

theorem produce_zero (s : State) (ts : List Tag) : produce s 0 ts = some s := by simp [produce]

theorem produce_eq {s : State} {n : Nat} (ts : List Tag) (h0 : n ≠ 0) (hn : n ≤ free s) :
    produce s n ts =
      some { ts.foldl addTag s with wpos := (s.wpos + n) % s.cap, used := s.used + n } := by
  have h1 : ¬ free s < n := Nat.not_lt.mpr hn
  simp [produce, h0, h1, writeLen]

theorem produce_refused {s : State} (n : Nat) (ts : List Tag) (h : free s < n) :
    produce s n ts = none := by
  have : n ≠ 0 := by omega
  simp [produce, this, h]

theorem produce_some {s s' : State} {n : Nat} {ts : List Tag} (e : produce s n ts = some s') :
    s'.cap = s.cap ∧ s'.rpos = s.rpos ∧ s'.used = s.used + n := by
  by_cases h0 : n = 0
  · subst h0; cases (produce_zero s ts).symm.trans e; exact ⟨rfl, rfl, rfl⟩
  · by_cases hn : n ≤ free s
    · cases (produce_eq ts h0 hn).symm.trans e; rw [foldl_addTag]; exact ⟨rfl, rfl, rfl⟩
    · cases (produce_refused n ts (Nat.lt_of_not_le hn)).symm.trans e

@[simp] theorem fill_cap (s : State) (vals : List Nat) : (fill s vals).cap = s.cap := rfl
@[simp] theorem fill_rpos (s : State) (vals : List Nat) : (fill s vals).rpos = s.rpos := rfl
@[simp] theorem fill_wpos (s : State) (vals : List Nat) : (fill s vals).wpos = s.wpos := rfl
@[simp] theorem fill_used (s : State) (vals : List Nat) : (fill s vals).used = s.used := rfl
@[simp] theorem fill_tags (s : State) (vals : List Nat) : (fill s vals).tags = s.tags := rfl

theorem fill_fields (s : State) (vals : List Nat) :
    (fill s vals).cap = s.cap ∧ (fill s vals).rpos = s.rpos ∧ (fill s vals).wpos = s.wpos ∧
    (fill s vals).used = s.used ∧ (fill s vals).tags = s.tags := ⟨rfl, rfl, rfl, rfl, rfl⟩

theorem fill_mem (s : State) (vals : List Nat) (hw : s.wpos < s.cap) {j : Nat} (hj : j < s.cap) :
    (fill s vals).mem ((s.wpos + j) % s.cap) =
      if j < vals.length then vals.getD j 0 else s.mem ((s.wpos + j) % s.cap) := by
  simp only [fill, off_cell hw hj, cell_lt (Nat.zero_lt_of_lt hj), true_and, getD_toArray,
    List.size_toArray]

theorem sim_fill {s : State} {q : Fifo.Q} (h : Sim s q) (vals : List Nat)
    (hv : vals.length ≤ free s) : Sim (fill s vals) q := by
  -- a cell that `fill` overwrites is a write-window cell, so it is not a readable one
  refine h.set_mem (fill s vals).mem fun i hi => if_neg fun ⟨hc, hj⟩ => ?_
  exact h.wcell_ne (Nat.lt_of_lt_of_le hj hv) hi (cell_off (h.wpos_eq ▸ cell_lt h.cap_pos) hc)

theorem getD_enq (vals : List Nat) {n j : Nat} (ts : List Tag) (hj : j < n) :
    (Fifo.enq vals n (specTags ts)).getD j (0, []) =
      (vals.getD j 0, (ts.filter fun t => t.pos == j).map fun t => (t.key, t.val)) := by
  rw [Fifo.enq, getD_map_range _ _ hj]
  simp [specTags, List.filter_map, Function.comp_def]

theorem getD_commit_tags (q : Fifo.Q) (vals : List Nat) {n : Nat} {ts : List Tag}
    (ht : ∀ t ∈ ts, t.pos < n) (i : Nat) :
    ((Fifo.commit q vals n (specTags ts)).getD i (0, [])).2 = (q.getD i (0, [])).2 ++
      (ts.filter fun t => q.length + t.pos == i).map fun t => (t.key, t.val) := by
  unfold Fifo.commit
  by_cases h : i < q.length
  · have e : (ts.filter fun t => q.length + t.pos == i) = [] :=
      List.filter_eq_nil_iff.mpr fun t _ => by simp; omega
    rw [getD_append_lt _ _ h, e, List.map_nil, List.append_nil]
  · have e : (ts.filter fun t => q.length + t.pos == i) = ts.filter fun t => t.pos == i - q.length :=
      List.filter_congr fun t _ => by rw [Bool.eq_iff_iff]; simp only [beq_iff_eq]; omega
    have hq : q.getD i (0, []) = (0, []) := getD_of_le _ (by omega)
    rw [getD_append_ge _ _ (by omega), hq, e]
    by_cases hn : i - q.length < n
    · rw [getD_enq _ _ hn]; rfl
    · have e' : (ts.filter fun t => t.pos == i - q.length) = [] :=
        List.filter_eq_nil_iff.mpr fun t htm => by have := ht t htm; simp; omega
      have he : (Fifo.enq vals n (specTags ts)).length ≤ i - q.length := by simp [Fifo.enq]; omega
      rw [getD_of_le _ he, e']; rfl

/-- `produce` alone: it commits whatever the write window holds. -/
theorem sim_commit {s : State} {q : Fifo.Q} (h : Sim s q) {vals : List Nat} {n : Nat}
    (ts : List Tag) (hn : n ≤ free s)
    (hv : ∀ j, j < n → s.mem ((s.wpos + j) % s.cap) = vals.getD j 0) (ht : ∀ t ∈ ts, t.pos < n) :
    ∃ s', produce s n ts = some s' ∧ Sim s' (Fifo.commit q vals n (specTags ts)) := by
  have hr := h.rpos_lt
  by_cases h0 : n = 0
  · subst h0
    exact ⟨s, produce_zero s ts, by simpa [Fifo.commit, Fifo.enq] using h⟩
  · refine ⟨_, produce_eq ts h0 hn, ?_⟩
    unfold free at hn
    rw [foldl_addTag]
    refine Sim.of_tags_at h.cap_pos hr (by show s.used + n ≤ s.cap; omega) (h.wcell n) ?_ ?_ ?_
      <;> dsimp only
    · simp [Fifo.commit, Fifo.enq, h.len_eq]
    · intro i hi
      by_cases h1 : i < s.used
      · rw [Fifo.commit, getD_append_lt _ _ (h.len_eq ▸ h1)]; exact h.mem_eq i h1
      · rw [Fifo.commit, getD_append_ge _ _ (by rw [h.len_eq]; omega), h.len_eq,
          getD_enq _ _ (by omega), ← hv _ (by omega), h.wcell]
        congr 2; omega
    · intro i hi
      rw [h.tags_at i hi, getD_commit_tags q _ ht, List.map_append, List.map_map,
        h.len_eq]
      congr 2
      apply List.filter_congr
      intro t htm
      have := ht t htm
      rw [Nat.add_comm t.pos, h.wcell, Bool.eq_iff_iff, beq_iff_eq, beq_iff_eq]
      exact ⟨cell_inj hr (by omega) hi, fun e => by rw [e]⟩

theorem sim_produce {s : State} {q : Fifo.Q} (h : Sim s q) (vals : List Nat) (n : Nat)
    (ts : List Tag) (hv : vals.length ≤ free s) (hn : n ≤ vals.length)
    (ht : ∀ t ∈ ts, t.pos < n) :
    ∃ s', produce (fill s vals) n ts = some s' ∧
      Sim s' (Fifo.commit q vals n (specTags ts)) := by
  refine sim_commit (sim_fill h vals hv) ts (Nat.le_trans hn hv) (fun j hj => ?_) ht
  unfold free at hv
  rw [fill_wpos, fill_cap, fill_mem s vals (h.wpos_eq ▸ cell_lt h.cap_pos) (by omega),
    if_pos (by omega)]

theorem consume_zero (s : State) : consume s 0 = some s := by simp [consume]

theorem consume_eq {s : State} {m : Nat} (h0 : m ≠ 0) (hm : m ≤ s.used) :
    consume s m = some { s with
      tags := fun c => if consumedCell s m c then [] else s.tags c
      rpos := (s.rpos + m) % s.cap, used := s.used - m } := by
  have : ¬ s.used < m := Nat.not_lt.mpr hm
  simp [consume, this, h0]

theorem consume_refused {s : State} (m : Nat) (h : s.used < m) : consume s m = none := by
  simp [consume, h]

theorem consume_some {s s' : State} {m : Nat} (e : consume s m = some s') :
    s'.cap = s.cap ∧ s'.wpos = s.wpos ∧ s'.used = s.used - m := by
  by_cases h0 : m = 0
  · subst h0; cases (consume_zero s).symm.trans e; exact ⟨rfl, rfl, rfl⟩
  · by_cases hm : m ≤ s.used
    · cases (consume_eq h0 hm).symm.trans e; exact ⟨rfl, rfl, rfl⟩
    · cases (consume_refused m (Nat.lt_of_not_le hm)).symm.trans e

theorem consumedCell_iff {s : State} {m c : Nat} (hr : s.rpos < s.cap) (hc : c < s.cap)
    (hm : 0 < m) (hmc : m ≤ s.cap) :
    consumedCell s m c = true ↔ (c + s.cap - s.rpos) % s.cap < m := by
  rw [off_lt_iff m hr hc, consumedCell, mod2 (a := s.rpos + m) (by omega)]
  by_cases h1 : s.rpos + m < s.cap
  · rw [if_pos h1, if_pos (by omega), decide_eq_true_eq]; omega
  · rw [if_neg h1, if_neg (by omega), decide_eq_true_eq]; omega

theorem sim_consume {s : State} {q : Fifo.Q} (h : Sim s q) (m : Nat) (hm : m ≤ s.used) :
    ∃ s', consume s m = some s' ∧ Sim s' (Fifo.consume q m) := by
  have hc := h.cap_pos; have hr := h.rpos_lt; have hu := h.used_le
  by_cases h0 : m = 0
  · subst h0; exact ⟨s, consume_zero s, by simpa [Fifo.consume] using h⟩
  · refine ⟨_, consume_eq h0 hm, ?_⟩
    have shift : ∀ i, ((s.rpos + m) % s.cap + i) % s.cap = (s.rpos + (m + i)) % s.cap := by
      intro i; rw [Nat.mod_add_mod, Nat.add_assoc]
    refine Sim.of_tags_at hc (Nat.mod_lt _ hc) (Nat.le_trans (Nat.sub_le _ _) hu) ?_ ?_ ?_ ?_
      <;> simp only [shift, Fifo.consume, getD_drop]
    · rw [h.wpos_eq]; congr 2; omega
    · simp [h.len_eq]
    · intro i hi
      exact h.mem_eq (m + i) (by omega)
    · intro i hi
      have hcc := consumedCell_iff (m := m) hr (cell_lt (r := s.rpos) (i := m + i) hc)
        (by omega) (by omega)
      rw [off_cell_mod hr] at hcc
      by_cases hw : m + i < s.cap
      · rw [Nat.mod_eq_of_lt hw] at hcc
        rw [if_neg (by rw [hcc]; omega), h.tags_at _ hw]
      · -- the offset wrapped: the cell was among the first `m`
        rw [mod2 (a := m + i) (by omega), if_neg hw] at hcc
        rw [if_pos (hcc.mpr (by omega)), getD_of_le _ (by rw [h.len_eq]; omega)]; rfl

theorem read_plus_write {s : State} {q : Fifo.Q} (h : Sim s q) :
    readLen s + writeLen s = s.cap := by
  have := h.used_le; unfold readLen writeLen free; omega

theorem window_eq {s : State} {q : Fifo.Q} (h : Sim s q) : window s = Fifo.samples q := by
  rw [window, Fifo.samples, ← map_range_getD (·.1) q (0, []), h.len_eq]
  exact List.map_congr_left fun i hi => h.mem_eq i (List.mem_range.mp hi)

theorem flatMap_congr {α β} {l : List α} {f g : α → List β} (h : ∀ a ∈ l, f a = g a) :
    l.flatMap f = l.flatMap g := by
  simp only [List.flatMap_def, List.map_congr_left h]

theorem flatMap_single {β} (n c0 : Nat) (X : List β) :
    (List.range n).flatMap (fun c => if c = c0 then X else []) = if c0 < n then X else [] := by
  induction n with
  | zero => simp
  | succ n ih =>
    rw [List.range_succ, List.flatMap_append, ih]
    by_cases h1 : c0 < n
    · have : ¬ n = c0 := by omega
      simp [h1, this, Nat.lt_succ_of_lt h1]
    · by_cases h2 : n = c0
      · subst h2; simp
      · have : ¬ c0 < n + 1 := by omega
        simp [h1, h2, this]

/-- Bucket sort of blocks laid out in permuted order (`σ` with inverse `τ` on `[0, n)`), block `i`
all at position `i`: bucket `k` picks out exactly block `k`. -/
theorem sort_blocks (n : Nat) (L : Nat → List Tag) (σ τ : Nat → Nat)
    (hL : ∀ i t, t ∈ L i → t.pos = i) (hτ : ∀ k, k < n → τ k < n ∧ σ (τ k) = k)
    (hσ : ∀ c, c < n → τ (σ c) = c) :
    stableSortByPos n ((List.range n).flatMap fun c => L (σ c)) = (List.range n).flatMap L := by
  refine flatMap_congr fun k hk => ?_
  have hk := List.mem_range.mp hk
  rw [List.filter_flatMap, flatMap_congr (g := fun c => if c = τ k then L k else []),
    flatMap_single, if_pos (hτ k hk).1]
  intro c hc
  by_cases e : σ c = k
  · rw [if_pos (by rw [← e, hσ c (List.mem_range.mp hc)]), e]
    exact List.filter_eq_self.mpr fun t ht => by simp [hL k t ht]
  · rw [if_neg fun hh => e (by rw [hh, (hτ k hk).2])]
    exact List.filter_eq_nil_iff.mpr fun t ht => by simp [hL _ t ht, e]

/-- The read filter never removes anything (so its `> end` slack is harmless). -/
theorem filter_redundant {s : State} {q : Fifo.Q} (h : Sim s q) (c : Nat) (hc : c < s.cap)
    (hk : readKeeps s c = false) : s.tags c = [] := by
  have hr := h.rpos_lt; have hu := h.used_le
  refine h.tags_out c hc (Nat.not_lt.mp fun hlt => ?_)
  rw [off_lt_iff _ hr hc] at hlt
  rw [readKeeps, Nat.mod_eq_of_lt hc, mod2 (a := s.rpos + s.used) (by omega)] at hk
  by_cases h1 : s.rpos + s.used < s.cap
  · rw [if_pos ⟨h1, hr⟩] at hk; simp at hk; omega
  · rw [if_neg (fun h => h1 h.1), if_neg h1] at hk; simp at hk; omega

/-- The tags of FIFO element `i` as the reader should see them: `pos` is the window index. -/
def elemTags (q : Fifo.Q) (i : Nat) : List Tag :=
  (q.getD i (0, [])).2.map fun kv => { pos := i, key := kv.1, val := kv.2 }

/-- What `read_buf` collects for one key. -/
theorem cell_tags {s : State} {q : Fifo.Q} (h : Sim s q) (c : Nat) (hc : c < s.cap) :
    (if readKeeps s c then (s.tags c).map (rebase s) else []) =
      elemTags q ((c + s.cap - s.rpos) % s.cap) := by
  have e := h.tags_at _ (Nat.mod_lt (c + s.cap - s.rpos) h.cap_pos)
  rw [cell_off h.rpos_lt hc] at e
  have : (if readKeeps s c then (s.tags c).map (rebase s) else []) = (s.tags c).map (rebase s) := by
    cases hk : readKeeps s c
    · simp [filter_redundant h c hc hk]
    · simp
  rw [this, e]
  simp [elemTags, rebase]

theorem readTags_eq {s : State} {q : Fifo.Q} (h : Sim s q) :
    readTags s = (List.range s.used).flatMap (elemTags q) := by
  have hr := h.rpos_lt
  have e : readTagsUnsorted s =
      (List.range s.cap).flatMap fun c => elemTags q ((c + s.cap - s.rpos) % s.cap) :=
    flatMap_congr fun c hc => cell_tags h c (List.mem_range.mp hc)
  rw [readTags, e, sort_blocks s.cap (elemTags q) _ (fun k => (s.rpos + k) % s.cap)
    (fun i t ht => by obtain ⟨kv, _, rfl⟩ := List.mem_map.mp ht; rfl)
    (fun k hk => ⟨cell_lt h.cap_pos, off_cell hr hk⟩) (fun c hc => cell_off hr hc)]
  -- offsets beyond `used` hold nothing
  obtain ⟨d, hd⟩ := Nat.exists_eq_add_of_le h.used_le
  rw [hd, List.range_add, List.flatMap_append]
  refine (congrArg _ (List.flatMap_eq_nil_iff.mpr fun x hx => ?_)).trans (List.append_nil _)
  obtain ⟨y, _, rfl⟩ := List.mem_map.mp hx
  rw [elemTags, getD_of_le _ (by rw [h.len_eq]; omega)]; rfl

theorem readTags_spec {s : State} {q : Fifo.Q} (h : Sim s q) :
    (readTags s).map toR = Fifo.tags q := by
  rw [readTags_eq h, Fifo.tags, h.len_eq, List.map_flatMap]
  apply flatMap_congr
  intro i _
  simp [elemTags, toR]

end RR.Ring
