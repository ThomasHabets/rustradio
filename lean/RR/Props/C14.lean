import RR.Proof.Codec
import RR.Proof.Au
import RR.Proof.AuBlock
import RR.Proof.AuEnc
import RR.Proof.Tcp
import RR.Proof.Sigmf

/-!
# C14 — byte formats round-trip and survive arbitrary read segmentation

Models: `RR.Codec` (`Sample::{serialize, parse}` for u8, u32, i32, f32 and
complex as little-endian bit patterns; the carry-over buffer of the byte
sources), `RR.Au` (`.au` header, big-endian PCM16, decoder), `RR.Sigmf` (member
lookup in an archive). The file system, sockets, `std::io`, the `tar` crate and
`serde_json` are trusted; the f32 ↔ i16 conversions of the AU codec are
parameters.
-/
namespace RR.Props.C14
open RR RR.Codec

/-- Serialise then parse is the identity for every sample type and every bit
pattern of that type (NaN payloads included: values are patterns). -/
theorem c14_parse_serialize (t : Ty) (v : Val) (h : v.ok t) : parse t (serialize t v) = some v :=
  parse_serialize t v h

theorem c14_serialize_size (t : Ty) (v : Val) : (serialize t v).length = t.size := serialize_length t v

/-- Reassembly: however the byte stream is split across `read()` results
(1-byte reads, splits inside a sample, empty reads), the samples emitted are
exactly the whole samples of the concatenated bytes, in order, and fewer than
one sample's worth of bytes is held back. -/
theorem c14_reassemble (t : Ty) (chunks : List (List Nat)) :
    (feedAll t [] chunks).2 = parseAll t chunks.flatten ∧
    (feedAll t [] chunks).1 = chunks.flatten.drop (chunks.flatten.length / t.size * t.size) ∧
    (feedAll t [] chunks).1.length < t.size := by
  rw [feedAll_eq_feed t [] chunks (size_pos t)]
  exact ⟨feed_snd t [] _, rfl, feed_fst_length t [] _⟩

/-- Hence two segmentations of the same bytes deliver the same samples. -/
theorem c14_segmentation_independent (t : Ty) (c1 c2 : List (List Nat)) (h : c1.flatten = c2.flatten) :
    (feedAll t [] c1).2 = (feedAll t [] c2).2 := by
  rw [(c14_reassemble t c1).1, (c14_reassemble t c2).1, h]

/-- File round trip: what the sink writes for a list of samples (their
serialisations, concatenated) is parsed back to the same samples. -/
theorem c14_file_roundtrip (t : Ty) (vs : List Val) (h : ∀ v ∈ vs, v.ok t) :
    parseAll t (vs.flatMap (serialize t)) = vs := by
  induction vs with
  | nil => exact parseAll_short t [] (size_pos t)
  | cons v rest ih =>
    rw [List.flatMap_cons, parseAll_cons t _ _ (serialize_length t v), parse_serialize t v (h v (by simp)),
      ih fun x hx => h x (by simp [hx])]
    rfl

/-- AU: decoding the encoder's output gives exactly the PCM16 quantisation of
the input — no header bytes decoded as audio, no sample missing. -/
theorem c14_au_roundtrip (bitrate : Nat) (hb : bitrate < 256 ^ 4) (q : Nat → Nat) (hq : ∀ x, q x < 65536)
    (xs : List Nat) : Au.decode bitrate (Au.encode bitrate q xs) = .ok (some (xs.map q)) :=
  Au.decode_encode bitrate hb q hq xs

/-- **AuDecode as a block, every read segmentation.** However the byte stream `X` is cut into read
windows (and whatever output space each call finds), the block stops with an error only if the
one-shot decoder rejects the whole stream, and otherwise — once the header is behind it — its
cumulative output is exactly the first `(consumed - offset) / 2` samples of the one-shot result. -/
theorem c14_au_block_any_chunking (bitrate : Nat) (deq : Nat → Nat) (X : List Nat) (sched : List (Nat × Nat)) :
    let r := Au.auDrive bitrate deq X .magic 0 [] sched
    (r.2.2.2 = true → ∃ e, Au.decode bitrate X = .error e) ∧
    (r.2.2.2 = false → r.1 = .data →
      ∃ off pcm, Au.decode bitrate X = .ok (some pcm) ∧ off ≤ r.2.1 ∧
        r.2.2.1 = (pcm.take ((r.2.1 - off) / 2)).map deq) := by
  intro r
  obtain ⟨h1, h2⟩ := Au.au_drive bitrate deq X sched .magic 0 [] ⟨rfl, rfl⟩
  exact ⟨h1, fun hne hd => Au.inv_data_prefix bitrate deq X _ _ (hd ▸ h2 hne)⟩

/-- Composed with the encoder: in any segmentation the decoder never fails on the encoder's output,
and what it has emitted is a prefix of the quantised input. -/
theorem c14_au_stream_roundtrip (bitrate : Nat) (hb : bitrate < 256 ^ 4) (q : Nat → Nat) (hq : ∀ x, q x < 65536)
    (deq : Nat → Nat) (xs : List Nat) (sched : List (Nat × Nat)) :
    let r := Au.auDrive bitrate deq (Au.encode bitrate q xs) .magic 0 [] sched
    r.2.2.2 = false ∧
    (r.1 = .data → ∃ k, r.2.2.1 = ((xs.map q).take k).map deq) := by
  intro r
  obtain ⟨h1, h2⟩ := c14_au_block_any_chunking bitrate deq (Au.encode bitrate q xs) sched
  have hdec := Au.decode_encode bitrate hb q hq xs
  have hne : r.2.2.2 = false := Bool.eq_false_iff.2 fun herr => by
    obtain ⟨e, he⟩ := h1 herr
    rw [hdec] at he; cases he
  refine ⟨hne, fun hd => ?_⟩
  obtain ⟨off, pcm, e1, _, e3⟩ := h2 hne hd
  rw [hdec] at e1
  cases e1
  exact ⟨_, e3⟩

/-- **TcpSource's carry-buffer code** (`tcpStep` mirrors `work()` after a successful `read()`: the partial
sample kept from earlier reads is completed with as many bytes as arrived, whole samples are parsed from the
rest, a new remainder is kept): for EVERY sequence of non-empty reads the samples pushed, concatenated over the
calls, are exactly the whole samples of all bytes read so far, in order, and fewer than one sample's bytes are
held back — it computes the ideal reassembly of `c14_reassemble`, whatever the read boundaries. (It holds with
empty reads among them too: `hne` is not used.) -/
theorem c14_tcp_source (t : Ty) (chunks : List (List Nat)) (hne : ∀ c ∈ chunks, c ≠ []) :
    (tcpAll t [] chunks).2.flatten = parseAll t chunks.flatten ∧ (tcpAll t [] chunks).1.length < t.size := by
  have h := tcpAll_eq_feedAll t [] chunks (size_pos t)
  obtain ⟨r1, -, r3⟩ := c14_reassemble t chunks
  exact ⟨(congrArg Prod.snd h).trans r1, (congrArg Prod.fst h) ▸ r3⟩

/-- one read: the real code's step equals the ideal `feed` (`hc` is not used: it holds of an empty read too) -/
theorem c14_tcp_step (t : Ty) (buf chunk : List Nat) (hb : buf.length < t.size) (hc : chunk ≠ []) :
    tcpStep t buf chunk = feed t buf chunk :=
  tcp_refines_feed t buf chunk hb

/-- **AuEncode as a block, every schedule** of read windows and output space (also one byte of room at a
time, so that the header or a sample does not fit): the bytes written so far are the first `k` header bytes
followed by two big-endian bytes per consumed sample, samples only after the complete header — a prefix of
what `Au.encode` gives for the whole input, with no extra or missing byte. -/
theorem c14_au_encode_block_any_chunking (bitrate : Nat) (q : Nat → Nat) (X : List Nat) (sched : List (Nat × Nat)) :
    let r := Blk.drive1 (Au.encBlock bitrate q) X (Au.encBlock bitrate q).init 0 [] sched
    (∃ k, k ≤ (Au.header bitrate).length ∧ (k < (Au.header bitrate).length → r.2.1 = 0) ∧ r.2.1 ≤ X.length ∧
      r.2.2 = (Au.header bitrate).take k ++ Au.body q (X.take r.2.1)) ∧
    ∃ rest, Au.encode bitrate q X = r.2.2 ++ rest := by
  intro r
  obtain ⟨pre, hh, hc0, hcX, hout⟩ := Au.enc_drive bitrate q X sched _ 0 [] (Au.enc_init bitrate q X)
  refine ⟨⟨pre.length, ?_, fun hlt => hc0 fun hn => ?_, hcX, ?_⟩, ?_⟩
  · rw [hh, List.length_append]; exact Nat.le_add_right _ _
  · rw [hh, hn, List.length_append] at hlt; exact Nat.lt_irrefl _ hlt
  · rw [hh, List.take_left' rfl]; exact hout
  show ∃ rest, Au.encode bitrate q X = r.2.2 ++ rest
  rw [hout, Au.encode_eq, hh]
  cases hst : r.1 with
  | none =>
    refine ⟨Au.body q (X.drop r.2.1), ?_⟩
    rw [Option.getD_none, List.append_nil, List.append_assoc, ← Au.body_append, List.take_append_drop]
  | some h =>
    refine ⟨h ++ Au.body q X, ?_⟩
    rw [hc0 (hst ▸ nofun), List.take_zero, show Au.body q [] = [] from rfl, List.append_nil, Option.getD_some,
      List.append_assoc]

/-- SigMF archives: the data range found does not depend on member order … -/
theorem c14_sigmf_order (ms ms' : List Sigmf.Member) (h : ms.Perm ms') :
    Sigmf.lookup ms = Sigmf.lookup ms' :=
  -- `lookup` sees the members only through `single` of two filters
  Option.ext fun r => by
    simp only [Sigmf.lookup_eq_some_iff, ← Sigmf.single_eq_some, fun p => Sigmf.single_perm _ _ (h.filter p)]

/-- … nor on unrelated members; missing or duplicate members are errors. -/
theorem c14_sigmf_lookup (ms : List Sigmf.Member) (m d : Sigmf.Member)
    (h1 : ms.filter (·.ext == .metaFile) = [m]) (hm : m.kind = .regular)
    (h2 : ms.filter (fun x => x.ext == .dataFile && x.stem == m.stem) = [d]) (hd : d.kind = .regular) :
    Sigmf.lookup ms = some (d.pos, d.size) :=
  (Sigmf.lookup_eq_some_iff ms _).2 ⟨m, h1, hm, d, h2, hd, rfl⟩

/-! Non-vacuity: the encoder's output for three samples, read through a window that cuts the magic and then
windows that overlap the state boundaries, one with no output space; `u32` reads of 1, 2, 0, 5 and 1 bytes;
a NaN payload and −∞ as a complex sample; an archive with an unrelated member and a second data member of
another name. -/
example : (Au.auDrive 8000 id (Au.encode 8000 id [1, 2, 515]) .magic 0 [] [(3, 9), (5, 9), (4, 9), (30, 0), (30, 9), (3, 1), (9, 9)]).2 =
    (34, [1, 2, 515], false) := by decide
example : (feedAll .u32 [] [[1], [2, 3], [], [4, 5, 6, 7, 8], [9]]).1 = [9] := by decide
example : parse .complex (serialize .complex ⟨0x7fc00001, 0xff800000⟩) = some ⟨0x7fc00001, 0xff800000⟩ := by decide
example : Sigmf.lookup [⟨9, .otherFile, .regular, 0, 5⟩, ⟨1, .dataFile, .regular, 1024, 77⟩,
    ⟨1, .metaFile, .regular, 512, 10⟩, ⟨2, .dataFile, .regular, 4096, 3⟩] = some (1024, 77) := by decide

end RR.Props.C14
