import RR.Proof.RingRun

/-!
# C02 — stream tags reach the reader exactly once, on their sample

Same model and spec as C01. In the FIFO spec a tag *lives on* its sample, so
"reported on that sample in every window that contains it, never for another
sample, never after it was consumed, commit order kept" is the statement that
the ring's tag output equals `Fifo.tags` of the abstract queue in every
reachable state.
-/
namespace RR.Props.C02
open RR RR.Ring

/-- In every state a valid program can reach, the tags a read window reports
are exactly the tags of the queued samples: window-relative position = index of
the sample in the window, key and value unchanged, several tags of one sample in
commit order, nothing else. -/
theorem c02_tags_refine (cap : Nat) (hcap : 0 < cap) (ops : List Fifo.Op)
    (hv : ∀ op ∈ ops, op.Valid) (s : State) (h : exec (init cap) ops = some s) :
    ∃ q, Sim s q ∧ (readTags s).map toR = Fifo.tags q ∧ window s = Fifo.samples q := by
  obtain ⟨q, hs, _⟩ := exec_sim (sim_init hcap) ops hv h
  exact ⟨q, hs, readTags_spec hs, window_eq hs⟩

/-- Consuming `m` samples discards exactly the first `m` samples *with their
tags* and keeps every other sample's tags (the abstraction of the new state is
`drop m` of the old one). -/
theorem c02_consume_drops_exactly {s : State} {q : Fifo.Q} (h : Sim s q) (m : Nat)
    (hm : m ≤ s.used) : ∃ s', consume s m = some s' ∧ Sim s' (q.drop m) :=
  sim_consume h m hm

/-- Consuming zero samples changes nothing at all. -/
theorem c02_consume_zero (s : State) : consume s 0 = some s := consume_zero s

/-- The filter inside `read_buf` never removes a stored tag (its `> end`
comparison is off by one, harmlessly). -/
theorem c02_filter_redundant {s : State} {q : Fifo.Q} (h : Sim s q) (c : Nat) (hc : c < s.cap)
    (hk : readKeeps s c = false) : s.tags c = [] := filter_redundant h c hc hk

/-- A commit stores each tag once, on the cell of the sample it names. -/
theorem c02_commit_places_tags {s : State} {q : Fifo.Q} (h : Sim s q) (vals : List Nat) (n : Nat)
    (ts : List Tag) (hv : vals.length ≤ free s) (hn : n ≤ vals.length)
    (ht : ∀ t ∈ ts, t.pos < n) :
    ∃ s', produce (fill s vals) n ts = some s' ∧ Sim s' (Fifo.commit q vals n (specTags ts)) :=
  sim_produce h vals n ts hv hn ht

/-- The defect that was repaired (`fix:` commit "Buffer::consume(0) discarded
every tag"): the previous code, run on a one-sample stream carrying one tag,
lost the tag on `consume(0)`. Kept as a regression witness. -/
def witnessState : State :=
  { cap := 4, rpos := 1, wpos := 2, used := 1, mem := fun _ => 0,
    tags := fun c => if c = 1 then [⟨1, 7, 7⟩] else [] }

theorem c02_old_consume_zero_lost_tags :
    (consumeOld witnessState 0).map (fun s => (readTags s).length) = some 0 ∧
    (consume witnessState 0).map (fun s => (readTags s).length) = some 1 := by decide

/-! Non-vacuity: tags on both sides of the wrap point of a 4-cell ring, two on one sample. -/
def demo : List Fifo.Op :=
  [.write [1, 2, 3] 3 [], .consume 3,
   .write [4, 5, 6] 3 [⟨0, 1, 1⟩, ⟨1, 2, 2⟩, ⟨1, 3, 3⟩, ⟨2, 4, 4⟩], .read, .consume 1, .read]

example : ∀ op ∈ demo, op.Valid := by decide
example : Ring.run (Ring.init 4) demo =
    [.ok, .ok, .ok, .window [4, 5, 6] [⟨0, 1, 1⟩, ⟨1, 2, 2⟩, ⟨1, 3, 3⟩, ⟨2, 4, 4⟩] 1, .ok,
     .window [5, 6] [⟨0, 2, 2⟩, ⟨0, 3, 3⟩, ⟨1, 4, 4⟩] 2] := by decide

end RR.Props.C02
