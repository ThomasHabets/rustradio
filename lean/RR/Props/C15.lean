import RR.Proof.Au
import RR.Proof.AuBlock
import RR.Proof.Hand
import RR.Proof.HdlcStep
import RR.Proof.SyncWork
import RR.Model.Blocks
import RR.Proof.Gated

/-!
# C15 — input content can never crash a block, decoder or parser

In the models every Rust assertion, checked subtraction, slice index and
`unwrap` is an explicit outcome (`Verdict.panic`, `none`, an error value), never
a totalised default, so "cannot crash" is a theorem of the form "this outcome
is not reached, for every input". Termination is by construction: every model
function is structurally recursive, recursive on a length that decreases
(`Codec.parseAll`), or fuelled with a bound derived from its argument. Proved here for the units that are modelled in Lean; all other units
that accept external data are exercised on the real code with hostile inputs
(see the evidence), where a panic, an abort or a hang is a violation.

Known finding (recorded, not repaired): integer `AddConst`/`MultiplyConst`/`Add`
panic on arithmetic overflow (`c15_int_overflow_panics` is its witness).
-/
namespace RR.Props.C15
open RR RR.Blk

/-- `AuDecode::work` as a block: in no state and on no read window (any bytes, any length, any output
space) does it panic — the header slices `head[4..16]` are in range because the data offset is
checked against 24 first; every other outcome is a wait, an error value, or progress. -/
theorem c15_au_block_no_panic (bitrate : Nat) (deq : Nat → Nat) (st : Au.DecSt) (v : View) :
    (Au.decWork bitrate deq st v).2.verdict ≠ .panic := by
  fun_cases Au.decWork bitrate deq st v
  -- the slice test: `head` has `off - 8 ≥ 16` bytes once the offset check and the wait for them are passed
  case case9 h24 hl _ h16 => rw [List.length_take] at h16; omega
  all_goals nofun

/-- The AU decoder: every byte string leads to samples, "need more", or an
error value; when it gets as far as reading header fields the offset
arithmetic cannot underflow and the 16 header bytes it slices are there. -/
theorem c15_au_total (bitrate : Nat) (bytes : List Nat) :
    (∃ e, Au.decode bitrate bytes = .error e) ∨ Au.decode bitrate bytes = .ok none ∨
    (∃ s, Au.decode bitrate bytes = .ok (some s) ∧
      24 ≤ Au.ofBeBytes ((bytes.drop 4).take 4) ∧ Au.ofBeBytes ((bytes.drop 4).take 4) ≤ bytes.length) := by
  cases h : Au.decode bitrate bytes with
  | error e => exact .inl ⟨e, rfl⟩
  | ok o =>
    cases o with
    | none => exact .inr (.inl rfl)
    | some s =>
      obtain ⟨_, ⟨-, rfl, h24, hl, -⟩, -⟩ := Au.decode_eq_ok_some.1 h
      exact .inr (.inr ⟨s, rfl, h24, hl⟩)

/-- The HDLC deframer: `update_state` is total on every state and every input
byte (bits are whatever the stream holds, not only 0/1); the only subtraction on
a length is guarded. -/
theorem c15_hdlc_total (cfg : Hdlc.Cfg) (s : Hdlc.State) (bit : Nat) :
    ∃ s' p, Hdlc.step cfg s bit = (s', p) := ⟨_, _, rfl⟩

theorem c15_hdlc_guard (cfg : Hdlc.Cfg) (hs : cfg.stripChecksum = true) (bits : List Nat) (bit : Nat)
    (p : List Nat) (h : (Hdlc.step cfg (.finalCheck bits) bit).2 = some p) :
    2 ≤ (Hdlc.toBytes ((bits.drop 7).reverse)).length :=
  (Hdlc.step_final_some cfg hs bits bit p h).1

/-- The LFSR descrambler accepts every byte value (it uses the low bit). -/
theorem c15_lfsr_total (mask len reg i : Nat) : (lfsrNext mask len reg i).isSome = true := rfl

/-- Generated `work()`s panic only if the user's per-sample function does. -/
theorem c15_sync_no_panic (S : SyncSpec) (st : S.σ) (v : View)
    (hf : ∀ s xs ts, (S.f s xs ts).isSome = true) : (syncWork S st v).2.verdict ≠ .panic := by
  fun_cases syncWork S st v
  -- the one leaf with `.panic`: the loop returned `none`, which only the per-sample function can cause
  case case3 => exact absurd ‹syncLoop S v.ins st 0 _ = none› (syncLoopG_total S hf _ st 0 _)
  all_goals nofun

/-- Skip, Delay, RtlSdrDecode, in the states that C08's invariants describe: no panic on any window and
any free space. (It holds in every state, `skipWork_no_panic` etc.; `hz`, `hcz`, `hc` are not used.) -/
theorem c15_hand_no_panic (k : Nat) (X : List Nat) (c a f z : Nat) (hz : z ≤ k) (hcz : 0 < c → z = k)
    (hc : c % 2 = 0) :
    (skipWork (k - min k c) ⟨[⟨(X.drop c).take a, [], true⟩], [⟨f, true⟩]⟩).2.verdict ≠ .panic ∧
    (delayWork ⟨k - z, 0⟩ ⟨[⟨(X.drop c).take a, [], true⟩], [⟨f, true⟩]⟩).2.verdict ≠ .panic ∧
    (rtlWork () ⟨[⟨(X.drop c).take a, [], true⟩], [⟨f, true⟩]⟩).2.verdict ≠ .panic :=
  ⟨skipWork_no_panic _ _, delayWork_no_panic _ _, rtlWork_no_panic _ _⟩

/-- Indexing the middle of a non-empty sorted partition (Midpointer) is in range; with the
guard added by the fix the partitions are non-empty when indexed. -/
theorem c15_midpoint_index (n : Nat) (h : 0 < n) : n / 2 < n := by omega

/-- The recorded finding: integer addition with overflow checks panics (model: `none`). -/
theorem c15_int_overflow_panics : (addConstInt 8 250).f () [10] [] = none := by decide

/-- ZeroCrossing's `work()` has no reachable panic: for every state (any clock, any counter), any sample
values (NaN, infinities are just encoded samples), any windows. -/
theorem c15_zerocrossing_no_panic {α : Type} (o : ZOps α) (sps : α) (nout : Nat) (st : ZcSt α) (v : View) :
    (gatedWork (zcGated o sps nout) st v).2.verdict ≠ .panic :=
  gatedWork_no_panic (zcGated o sps nout) (by intro st s; simp [zcGated]) st v

end RR.Props.C15
