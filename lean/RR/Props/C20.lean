import RR.Gen.E2eStatus
import RR.Gen.E2e
import RR.Proof.Sync
import RR.Proof.HdlcTable
import RR.Spec.Hdlc
import RR.Proof.Chain
import RR.Proof.ZcIdeal

/-!
# C20 — end to end: the documented receive chains decode every clean AX.25 frame

**Partial by nature.** The receive chains consist of an analog front end
(Hilbert / FFT filters / resampler / quadrature demodulator / clock recovery /
slicer, all floating point) and a digital back end (NRZI decoder, G3RUH
descrambler, HDLC deframer). The back end is modelled and proved (here and in
C10/C13); that the float front end recovers the transmitted symbol signs for
*every* clean signal is not a theorem — it needs real-analysis bounds on
windowed filters and on the clock loop. It enters as the explicit hypothesis
`FrontEnd` and is *validated* on generated transmissions (Bell-202 AFSK at
44100/48000/50000 Hz, G3RUH 2-FSK at 50000/100000 Hz, arbitrary start phase and
sub-sample symbol timing, both runners), where a front-end regression shows up
as a concrete failing transmission.

The chain definitions used by the harness are compared with the example sources
on every run (`RR.Gen.rx1200Chain`, …).
-/
namespace RR.Props.C20
open RR RR.Blk RR.Chain

/-- The documented 1200-baud chain, as the example source has it now (the translator inlines the example's
own helper functions, so that moving blocks into or out of a helper does not change the list: the first four
blocks are the SDR input path of `get_input` — built in mutually exclusive branches, hence listed sorted — not used
when the input is audio). -/
theorem c20_chain_1200_as_documented :
    Gen.rx1200Chain = ["FastFM", "FftFilter", "QuadratureDemod", "RationalResampler",
      "Hilbert", "QuadratureDemod", "FftFilterFloat", "add_const", "SymbolSync",
      "BinarySlicer", "NrziDecode", "HdlcDeframer"] ∧
    Gen.rx1200HdlcMin = 10 ∧ Gen.rx1200HdlcMax = 1500 ∧ Gen.rx1200HilbertTaps = 65 :=
  ⟨rfl, rfl, rfl, rfl⟩

/-- The documented 9600-baud chain (the example uses `SymbolSync`; the harness also runs it with the
`ZeroCrossing` block as the clock recovery, which is the variant the property names). -/
theorem c20_chain_9600_as_documented :
    Gen.rx9600Chain = ["FftFilter", "RationalResampler", "QuadratureDemod", "SymbolSync", "BinarySlicer",
      "NrziDecode", "Descrambler", "HdlcDeframer"] ∧
    Gen.rx9600HdlcMin = 10 ∧ Gen.rx9600HdlcMax = 1500 ∧
    Gen.rx9600DescramblerMask = 0x21 ∧ Gen.rx9600DescramblerSeed = 0 ∧ Gen.rx9600DescramblerLen = 16 :=
  ⟨rfl, rfl, rfl, rfl, rfl, rfl⟩

/-- The NRZI decoder inverts the encoder for every bit string, when it starts
from the transmitter's initial level … -/
theorem c20_nrzi (level : Nat) (hl : level < 2) (bits : List Nat) (hb : ∀ b ∈ bits, b < 2) :
    nrziSpec level (nrziEnc level bits) = bits :=
  nrzi_inv level hl bits hb

/-- … and from any other starting point only the first decoded bit can differ
(so any preamble absorbs the unknown initial level and polarity). -/
theorem c20_nrzi_any_start (level prev : Nat) (hl : level < 2) (bits : List Nat) (hb : ∀ b ∈ bits, b < 2) :
    (nrziSpec prev (nrziEnc level bits)).drop 1 = bits.drop 1 := by
  cases bits with
  | nil => rfl
  | cons b rest => rw [nrzi_cons level prev b rest hl hb]; rfl

/-- The hypothesis about the analog front end, made explicit: what reaches the
NRZI decoder is, after a finite prefix, the transmitted line levels up to a
constant polarity flip. -/
def FrontEnd (txLevels rxBits : List Nat) : Prop :=
  ∃ (skip dropTx : Nat) (flip : Nat), flip < 2 ∧
    rxBits.drop skip = (txLevels.drop dropTx).map (fun l => if flip = 1 then 1 - l else l)

/-- A polarity flip of the line does not change what the NRZI decoder delivers after its first bit. -/
theorem c20_polarity_irrelevant (prev : Nat) (ls : List Nat) (hl : ∀ l ∈ ls, l < 2) :
    (nrziSpec prev (ls.map fun l => 1 - l)).drop 1 = (nrziSpec prev ls).drop 1 := by
  cases ls with
  | nil => rfl
  | cons a rest =>
    simp only [List.map_cons, nrziSpec, List.drop_succ_cons, List.drop_zero]
    exact nrziSpec_flip a rest (hl a (by simp)) (fun x hx => hl x (by simp [hx]))

/-- **Digital back end of the 1200-baud chain, every transmission.** Any
preamble of at least one bit, then a flag and any number of frames (payloads
within the example's size limits, any idle flags between them), NRZI-encoded
from any line level; NRZI decoder in any state, deframer as configured in the
example: the packets delivered are the payloads, in order, each once — preceded
only by what the preamble itself made the deframer deliver. -/
theorem c20_digital_1200 (P : List Nat) (hP : ∀ x ∈ P, x < 2) (hPne : P ≠ []) (level prev : Nat)
    (hl : level < 2) (hp : prev < 2) (ps : List (List Nat × Nat))
    (hps : ∀ q ∈ ps, (∀ b ∈ q.1, b < 256) ∧ Gen.rx1200HdlcMin ≤ q.1.length + 2 ∧ q.1.length + 2 ≤ Gen.rx1200HdlcMax) :
    ∃ garbage, (Hdlc.run ⟨Gen.rx1200HdlcMin, Gen.rx1200HdlcMax, true, false⟩ Hdlc.init
      (nrziSpec prev (nrziEnc level (P ++ txFrames ps)))).2 = garbage ++ ps.map (·.1) := by
  obtain ⟨p0, P', rfl⟩ := List.exists_cons_of_ne_nil hPne
  obtain ⟨r0, _, hR⟩ := nrzi_any_start level prev hl hp p0 (P' ++ txFrames ps)
    (List.forall_mem_append.mpr ⟨hP, txFrames_bits ps⟩)
  rw [List.cons_append, hR]
  exact ⟨_, deframe_after_noise _ rfl (r0 :: P') ps hps⟩

/-- **Digital back end of the 9600-baud chain, every transmission.** As above
with the G3RUH scrambler (any seed) at the transmitter and the descrambler as
configured in the example (mask 0x21, length 16, seed 0 — the real `Lfsr::next`
register model) at the receiver, after a preamble of at least 18 bits. -/
theorem c20_digital_9600 (P hs : List Nat) (hP : ∀ x ∈ P, x < 2) (hhs : ∀ x ∈ hs, x < 2) (hlen : 18 ≤ P.length)
    (level prev : Nat) (hl : level < 2) (hp : prev < 2) (ps : List (List Nat × Nat))
    (hps : ∀ q ∈ ps, (∀ b ∈ q.1, b < 256) ∧ Gen.rx9600HdlcMin ≤ q.1.length + 2 ∧ q.1.length + 2 ≤ Gen.rx9600HdlcMax) :
    ∃ garbage, (Hdlc.run ⟨Gen.rx9600HdlcMin, Gen.rx9600HdlcMax, true, false⟩ Hdlc.init
      (Lfsr.lfsrRun Gen.rx9600DescramblerSeed
        (nrziSpec prev (nrziEnc level (Lfsr.scrL hs (P ++ txFrames ps)))))).2 = garbage ++ ps.map (·.1) := by
  obtain ⟨noise, _, hrun⟩ := scrambled_link P (txFrames ps) hs hP (txFrames_bits ps) hhs hlen level prev hl hp
  have hseed : Gen.rx9600DescramblerSeed = 0 := by decide
  rw [hseed, hrun]
  exact ⟨_, deframe_after_noise _ rfl noise ps hps⟩

/-- **Clock recovery by `ZeroCrossing`, exact arithmetic.** `zcStep` — the definition the driver runs in
`Float32`, bit for bit against the real block — instantiated with rationals (`+ - /2 10*` exact, `as u64` =
floor): for EVERY samples-per-symbol `sps ≥ 4` (50000/9600 in the example), every symbol sequence `b` with
any run lengths, on the ideal NRZ waveform (symbol `s` = the sample instants in `[s·sps, (s+1)·sps)`), the block
emits exactly one sample per symbol, carrying that symbol's sign — through all of its zero-crossing resets
and step-backs. (For `2 < sps < 4` this is false: the block can emit a symbol twice; what is not proved
is the effect of `f32` rounding in `last_cross += clock`.) -/
theorem c20_zero_crossing_ideal (sps : ℚ) (hs : 4 ≤ sps) (b : List Bool) (pos : Nat → Bool) (hi lo : Nat)
    (hhi : pos hi = true) (hlo : pos lo = false) :
    ∃ st rows, gatedRun (zcGated (ratZOps pos) sps 1) (idealWave sps b hi lo) (zcGated (ratZOps pos) sps 1).init [] =
      some (st, rows) ∧ rows.map (rowSign pos) = b := by
  have hsp : 0 < sps := lt_of_lt_of_le four_pos hs
  have h0 : (0 : ℚ) ≤ (b.length : ℚ) * sps := mul_nonneg (Nat.cast_nonneg _) hsp.le
  obtain ⟨st', k', rows', hrun, hinv, hrows⟩ := zc_run sps hs b pos hi lo hhi hlo _ (Nat.ceil_lt_add_one h0)
  refine ⟨st', rows', hrun, ?_⟩
  -- of the final invariant only `ZNum sps _ N k'` is needed
  obtain ⟨_, _, D, _, _, hlc, hN', _⟩ := hinv
  have hle := Nat.le_ceil ((b.length : ℚ) * sps)
  -- all samples are in: `|b|·sps ≤ N ≤ last_cross + sps/2 < k'·sps + 1 + sps/2 ≤ (k' + 1)·sps`
  have h3 : (b.length : ℚ) * sps < ((k' : ℚ) + 1) * sps := by
    linear_combination hle + hN' + hlc + (1 / 2) * hs
  have h4 : (b.length : ℚ) < (k' : ℚ) + 1 := lt_of_mul_lt_mul_right h3 hsp.le
  have : b.length < k' + 1 := by exact_mod_cast h4
  rw [hrows, List.take_of_length_le (by omega)]

/-- The bound on `sps` is needed: at 2.5 samples per symbol the same step emits the second symbol of
`[0, 1]` twice (kernel-evaluated on the exact-arithmetic instance). -/
theorem c20_zero_crossing_small_sps_duplicates :
    (gatedRun (zcGated (ratZOps (· == 1)) (5 / 2) 1) (idealWave (5 / 2) [false, true] 1 0)
      (zcGated (ratZOps (· == 1)) (5 / 2) 1).init []).map (fun r => r.2.map (rowSign (· == 1))) =
      some [false, true, true] := by decide +kernel

/-- **The 9600-baud chain from the baseband on**: ideal NRZ waveform of the scrambled, NRZI-coded
transmission → ZeroCrossing (exact arithmetic, any `sps ≥ 4`) → BinarySlicer (`x > 0`) → NrziDecode →
Descrambler → HdlcDeframer as configured in the example delivers exactly the transmitted payloads, in
order, each once. (`c08_gated` makes the ZeroCrossing part independent of the schedule.) -/
theorem c20_9600_from_baseband (sps : ℚ) (hsps : 4 ≤ sps) (pos : Nat → Bool) (hi lo : Nat) (hhi : pos hi = true)
    (hlo : pos lo = false) (P hs : List Nat) (hP : ∀ x ∈ P, x < 2) (hhs : ∀ x ∈ hs, x < 2) (hlen : 18 ≤ P.length)
    (level prev : Nat) (hl : level < 2) (hp : prev < 2) (ps : List (List Nat × Nat))
    (hps : ∀ q ∈ ps, (∀ b ∈ q.1, b < 256) ∧ Gen.rx9600HdlcMin ≤ q.1.length + 2 ∧ q.1.length + 2 ≤ Gen.rx9600HdlcMax) :
    let levels := nrziEnc level (Lfsr.scrL hs (P ++ txFrames ps))
    ∃ st rows, gatedRun (zcGated (ratZOps pos) sps 1) (idealWave sps (levels.map (· == 1)) hi lo)
        (zcGated (ratZOps pos) sps 1).init [] = some (st, rows) ∧
      ∃ garbage, (Hdlc.run ⟨Gen.rx9600HdlcMin, Gen.rx9600HdlcMax, true, false⟩ Hdlc.init
        (Lfsr.lfsrRun Gen.rx9600DescramblerSeed
          (nrziSpec prev (rows.map fun r => if rowSign pos r then 1 else 0)))).2 = garbage ++ ps.map (·.1) := by
  intro levels
  obtain ⟨st, rows, hrun, hrows⟩ := c20_zero_crossing_ideal sps hsps (levels.map (· == 1)) pos hi lo hhi hlo
  refine ⟨st, rows, hrun, ?_⟩
  rw [slice_signs (rowSign pos) rows levels (nrziEnc_lt2 level hl _) hrows]
  exact c20_digital_9600 P hs hP hhs hlen level prev hl hp ps hps

/-- The descrambler of the chain is the documented one: `out[n] = in[n] xor in[n-12] xor in[n-17]`. -/
theorem c20_descrambler_taps (l hist : List Nat) (hl : ∀ x ∈ l, x < 2) (hh : ∀ x ∈ hist, x < 2) :
    Lfsr.lfsrRun (Lfsr.enc hist) l = Lfsr.descrL hist l ∧
    Gen.rx9600DescramblerMask = 0x21 ∧ Gen.rx9600DescramblerLen = 16 :=
  ⟨Lfsr.lfsrRun_eq_descrL l hl hist hh, by decide, by decide⟩

/-- The `Descrambler` block's generated work loop clocks exactly that register model. -/
theorem c20_descrambler_block (get : Nat → List Nat × List (List Tag)) (reg pos k : Nat) :
    ∃ st ts, syncLoopG (descrambler Gen.rx9600DescramblerMask Gen.rx9600DescramblerSeed Gen.rx9600DescramblerLen)
        get reg pos k =
      some (st, (Lfsr.lfsrRun reg ((List.range k).map fun p => (get (pos + p)).1.getD 0 0)).map ([·]), ts) :=
  Lfsr.descrambler_loop _ get reg pos k

/-- Digital back end of the 1200-baud chain on a concrete transmission: NRZI-coded frame with a
two-flag preamble, any initial line level — exactly the payload comes out (non-vacuity; the statement
for every payload follows from the HDLC round trip, C13). -/
example :
    let cfg : Hdlc.Cfg := ⟨Gen.rx1200HdlcMin, Gen.rx1200HdlcMax, true, false⟩
    let p := [0x82, 0xa0, 0xa4, 0xa6, 0x40, 0x40, 0x60, 0x03, 0xf0, 0x21, 0x3e]
    let bits := HdlcSpec.flag ++ HdlcSpec.frame p
    (Hdlc.run cfg Hdlc.init (nrziSpec 0 (nrziEnc 1 bits))).2 = [p] := by decide +kernel

/-- Non-vacuity of `c20_zero_crossing_ideal` at the example's rate 50000/9600: five symbols in, five out. -/
example :
    (gatedRun (zcGated (ratZOps (· == 1)) (50000 / 9600) 1) (idealWave (50000 / 9600) [false, true, false, false, true] 1 0)
      (zcGated (ratZOps (· == 1)) (50000 / 9600) 1).init []).map (fun r => r.2.map (rowSign (· == 1))) =
      some [false, true, false, false, true] := by decide +kernel

end RR.Props.C20
