import RR.Gen.WaitsStatus
import RR.Proof.Wait
import RR.Gen.Waits

/-!
# C04 — end-of-stream decisions never lose committed data and always arrive

Model: `RR.Wait` — a decision reads the amount available (under the lock) and
the peer's liveness (a racy `Arc::strong_count` read); the peer thread takes
arbitrary steps (commit/push, drop) before, between and after the two reads.
The *order of the reads of every decision function* is `RR.Gen.*`, regenerated
from `/repo/src/stream.rs` on every run; the theorems below are stated about
those generated programs, so a reordering in the source re-opens the proofs.

Partial for "bounded number of waits": that a wait call completes (the OS runs
the thread, the 100 ms timeout fires) is assumed; what is proved is that *one
completed call* after the peer is gone gives the final answer.
-/
namespace RR.Props.C04
open RR RR.Wait

/-- `ReadStream::wait_for_read` (copy streams): a `true` verdict is only given
when the writer is gone and fewer than `need` remain — under every interleaving
with the writer's last commits and its drop. -/
theorem c04_reader_wait_sound : SoundReader Gen.readWait := sound_amountLast (by decide)

/-- `ReadStream::eof`. -/
theorem c04_reader_eof_sound : SoundReader Gen.readEof := sound_amountLast (by decide)

/-- `NCReadStream::wait` (packet streams): both facts are read under one lock. -/
theorem c04_nc_wait_sound : SoundReader Gen.ncReadWait := sound_amountLast (by decide)

/-- `NCReadStream::eof`. -/
theorem c04_nc_eof_sound : SoundReader Gen.ncReadEof := sound_amountLast (by decide)

/-- `WriteStream::wait_for_write`: a writer is told "never" only if its reader is gone. -/
theorem c04_writer_wait_sound : SoundWriter Gen.writeWait := sound_writer_any _

/-- `NCWriteStream::wait`. -/
theorem c04_nc_writer_wait_sound (s : Sh) (sched : List (Option Env)) :
    (exec Gen.ncWriteWait s {} sched).2.1.a = some false →
    (exec Gen.ncWriteWait s {} sched).1.peerAlive = false :=
  alive_seen _ s {} sched nofun

/-- A decision never changes the stream: committed data stays readable. -/
theorem c04_no_discard (prog : List Obs) (s : Sh) (k : Nat) :
    (exec prog s {} (List.replicate k none)).1 = s := exec_no_discard prog s {} k

/-- After the peer is gone nothing changes any more, so a sound `true` stays true forever. -/
theorem c04_stable (s : Sh) (h : s.peerAlive = false) (es : List Env) :
    es.foldl envStep s = s := envSteps_dead s h es

/-- Arrival: once the peer is gone and the remainder is insufficient, the next
completed call of each decision function says so. -/
theorem c04_arrives :
    Arrives Gen.readWait ∧ Arrives Gen.readEof ∧ Arrives Gen.ncReadWait ∧
    Arrives Gen.ncReadEof ∧ Arrives Gen.writeWait :=
  ⟨arrives_of_complete _ (by decide), arrives_of_complete _ (by decide),
   arrives_of_complete _ (by decide), arrives_of_complete _ (by decide),
   arrives_of_complete _ (by decide)⟩

/-- Why the order matters (the defect repaired by the two `fix:` commits on
`wait_for_read` and `NCReadStream::eof`): amount-then-liveness is unsound. -/
theorem c04_amount_first_is_unsound : ¬ SoundReader [.avail, .alive] := by
  intro h
  -- the wait times out short; the writer commits its last data and goes away; then liveness is read
  have := h ⟨0, true⟩ [none, some (.add 5), some .drop, none] 1 rfl (by decide)
  revert this; decide

/-- After the writer has gone, every completed reader-side decision answers exactly `queued < need`, for every
request and independently of earlier requests on the same stream (a "never" for 10 samples with 3 queued is
followed by "go on" for a request of 3). The real streams are asked such sequences on one handle in every run
(`waits`), so a verdict remembered across calls is a mismatch. -/
theorem c04_exact_after_close (s : Sh) (sched : List (Option Env)) (need : Nat) (hd : s.peerAlive = false) :
    ((exec Gen.readWait s {} sched).2.2 = [] →
      verdict (exec Gen.readWait s {} sched).2.1 need = decide (s.avail < need)) ∧
    ((exec Gen.ncReadWait s {} sched).2.2 = [] →
      verdict (exec Gen.ncReadWait s {} sched).2.1 need = decide (s.avail < need)) ∧
    ((exec Gen.readEof s {} sched).2.2 = [] →
      verdict (exec Gen.readEof s {} sched).2.1 need = decide (s.avail < need)) :=
  ⟨exact_after_close _ (by decide) s sched need hd, exact_after_close _ (by decide) s sched need hd,
   exact_after_close _ (by decide) s sched need hd⟩

example : verdict (exec Gen.readWait ⟨3, false⟩ {} [none, none]).2.1 10 = true ∧
    verdict (exec Gen.readWait ⟨3, false⟩ {} [none, none]).2.1 3 = false := by decide

/-! Non-vacuity: the schedule that breaks the other order is harmless for the generated one. -/
example : (exec Gen.readWait ⟨0, true⟩ {} [none, some (.add 5), some .drop, none]).2.2 = [] := by decide
example : verdict (exec Gen.readWait ⟨0, true⟩ {} [none, some (.add 5), some .drop, none]).2.1 1 = false := by
  decide
example : verdict (exec Gen.readWait ⟨3, true⟩ {} [some .drop, none, none]).2.1 4 = true := by decide

end RR.Props.C04
