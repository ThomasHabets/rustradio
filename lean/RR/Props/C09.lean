import RR.Proof.SyncWork
import RR.Proof.Hand
import RR.Proof.DspFir
import RR.Proof.Gated
import RR.Proof.AuEnc
import RR.Proof.V2S
import RR.Proof.Resampler
import RR.Proof.SinkSrc
import RR.Proof.Wrap
import RR.Proof.Cma

/-!
# C09 — block verdicts are truthful

For the modelled blocks the statements are theorems about `work()` on an
arbitrary view (any window contents, any free space, any internal state):
never more consumed than the read window offered, never more committed than the
write window offered; a reported wait names a stream of the block that really
lacks what is asked, and once no stream is lacking the call makes progress;
`Again` comes with progress; ended-and-drained inputs are reported as a wait on
that input. Windows are not held across calls by construction of the models
(each call acquires and releases); on the real code this is the handle count
checked by the harness.

For all other library blocks the same acceptor runs on real traces
(`!c09` lines of the drip-feed harness), not as a theorem.
-/
namespace RR.Props.C09
open RR RR.Blk

/-- Sync family: what is consumed/committed is within every window. -/
theorem c09_sync_within_windows (v : View) :
    (∀ i ∈ v.ins, stepsOf v ≤ i.samples.length) ∧ (∀ o ∈ v.outs, stepsOf v ≤ o.free) :=
  ⟨stepsOf_le_in v, stepsOf_le_out v⟩

/-- Sync family: a wait on input `k` means input `k` is empty (and is the first
such); nothing was consumed, the state is untouched. -/
theorem c09_sync_wait_input_truthful (S : SyncSpec) (st : S.σ) (v : View) (k : Nat)
    (h : firstIdx v.ins (fun i => i.samples.isEmpty) = some k) :
    (syncWork S st v).1 = st ∧ (syncWork S st v).2.verdict = .waitIn k 1 ∧
    (∀ c ∈ (syncWork S st v).2.consumed, c = 0) ∧
    (∃ i, v.ins[k]? = some i ∧ i.samples = []) ∧
    (∀ j, j < k → ∀ i, v.ins[j]? = some i → i.samples ≠ []) :=
  syncWork_waitIn S st v k h

theorem c09_sync_wait_output_truthful (S : SyncSpec) (st : S.σ) (v : View) (k : Nat)
    (hin : firstIdx v.ins (fun i => i.samples.isEmpty) = none)
    (h : firstIdx v.outs (fun o => o.free == 0) = some k) :
    (syncWork S st v).1 = st ∧ (syncWork S st v).2.verdict = .waitOut k 1 ∧
    (∀ c ∈ (syncWork S st v).2.consumed, c = 0) ∧
    (∃ o, v.outs[k]? = some o ∧ o.free = 0) :=
  syncWork_waitOut S st v k hin h

/-- Sync family, sufficiency: when no stream lacks what a wait would ask for,
the call makes progress (`Again` with ≥ 1 step on every stream) — so satisfying
the reported waits one after the other always ends in progress; and `Again` is
never answered without progress. -/
theorem c09_sync_progress (S : SyncSpec) (st : S.σ) (v : View)
    (hin : firstIdx v.ins (fun i => i.samples.isEmpty) = none)
    (hout : firstIdx v.outs (fun o => o.free == 0) = none) :
    0 < stepsOf v ∧
    ((syncWork S st v).2.verdict = .panic ∨
     ((syncWork S st v).2.verdict = .again ∧
      (syncWork S st v).2.consumed = v.ins.map (fun _ => stepsOf v) ∧
      (syncWork S st v).2.produced.length = v.outs.length ∧
      ∀ p ∈ (syncWork S st v).2.produced, p.samples.length = stepsOf v)) :=
  syncWork_steps S st v hin hout

/-- Sync family, retirement: inputs ended and drained ⇒ `eof()` is true and the
call reports a wait on an (ended) input. -/
theorem c09_sync_retires (S : SyncSpec) (st : S.σ) (v : View) (hne : v.ins ≠ [])
    (h : ∀ i ∈ v.ins, i.alive = false ∧ i.samples = []) :
    macroEof v = true ∧ (syncWork S st v).2.verdict = .waitIn 0 1 :=
  ⟨(macroEof_iff v).mpr h,
    (syncWork_waitIn S st v 0 (firstIdx_of_drained v.ins hne fun i hi => (h i hi).2)).2.1⟩

/-- Sync family, `eof()` is sound: when the derived `eof()` answers true (every input ended and drained) a
further call changes nothing — no state change, nothing consumed, nothing delivered on any output. Retiring any
block built with the `sync` macro on that answer loses nothing (the hypothesis of `c05_retire_all_is_reference`). -/
theorem c09_sync_eof_sound (S : SyncSpec) (st : S.σ) (v : View) (hne : v.ins ≠ [])
    (h : macroEof v = true) :
    (syncWork S st v).1 = st ∧ (∀ c ∈ (syncWork S st v).2.consumed, c = 0) ∧
    (∀ p ∈ (syncWork S st v).2.produced, p.samples = []) := by
  have hall := (macroEof_iff v).mp h
  rw [syncWork_eq_waitIn S st v 0 (firstIdx_of_drained v.ins hne fun i hi => (hall i hi).2)]
  simp [noOut]

/-- The same for Skip, RationalResampler and the gated transducers (ZeroCrossing, SymbolSync; any arity of
outputs, any state): on an ended, drained input a further call delivers nothing. -/
theorem c09_eof_sound_hand (k f i d : Nat) (c : Int) (G : Gated) (gst : G.σ) (ts : List Tag) (outs : List OutView) :
    ((skipWork k ⟨[⟨[], ts, false⟩], [⟨f, true⟩]⟩).2.produced.getD 0 ⟨[], []⟩).samples = [] ∧
    (((resBlockRaw i d).work c ⟨[⟨[], ts, false⟩], [⟨f, true⟩]⟩).2.produced.getD 0 ⟨[], []⟩).samples = [] ∧
    (∀ p ∈ (gatedWork G gst ⟨[⟨[], ts, false⟩], outs⟩).2.produced, p.samples = []) := by
  -- an empty window is answered with a wait that moves nothing, whatever the outputs
  refine ⟨rfl, rfl, fun p hp => ?_⟩
  obtain ⟨_, _, rfl⟩ := List.mem_map.mp (show p ∈ (noOut ⟨[⟨[], ts, false⟩], outs⟩ (.waitIn 0 1)).produced from hp)
  rfl

/-- … and for the complex FftFilter (an unfinished batch stays in its buffer: nothing is delivered for it, with
or without further calls) and VecToStream (no packet queued ⇒ nothing delivered). -/
theorem c09_eof_sound_fft_v2s {α : Type} (o : Dsp.Ops α) (cd : Dsp.Codec α) (taps : List α) (st : Dsp.FftSt α)
    (ts : List Tag) (f : Nat) (h : st.buf.length < Dsp.calcFftSize taps.length - taps.length) :
    ((Dsp.fftWork o cd taps st ⟨[⟨[], ts, false⟩], [⟨f, true⟩]⟩).2.produced.getD 0 ⟨[], []⟩).samples = [] ∧
    ((v2sWork () ⟨[⟨[], ts, false⟩], [⟨f, true⟩]⟩).2.produced.getD 0 ⟨[], []⟩).samples = [] :=
  ⟨Dsp.fftWork_short o cd taps st [] ts false f (Nat.sub_pos_of_lt h), rfl⟩

/-- Skip: verdicts on an arbitrary single-stream view. -/
theorem c09_skip (skip : Nat) (w : List Nat) (ts : List Tag) (f : Nat) :
    let r := skipWork skip ⟨[⟨w, ts, true⟩], [⟨f, true⟩]⟩
    (r.2.verdict = .waitIn 0 1 ∧ w = [] ∧ r.2.consumed = [0]) ∨
    (r.2.verdict = .waitOut 0 1 ∧ w ≠ [] ∧ f = 0 ∧ r.2.consumed = [0]) ∨
    (r.2.verdict = .again ∧ w ≠ [] ∧ 0 < f ∧
      0 < r.2.consumed.getD 0 0 ∧ r.2.consumed.getD 0 0 ≤ w.length ∧
      (r.2.produced.getD 0 ⟨[], []⟩).samples.length ≤ f) := by
  intro r
  rw [show r = _ from skipWork_one skip w ts true f true]
  split
  next hw => exact .inl ⟨rfl, hw, rfl⟩
  split
  next hw hf => exact .inr (.inl ⟨rfl, hw, hf, rfl⟩)
  next hw hf =>
  have hwpos : 0 < w.length := List.length_pos_iff.mpr hw
  have hfpos : 0 < f := Nat.pos_of_ne_zero hf
  split
  next =>
    exact .inr (.inr ⟨rfl, hw, hfpos, Nat.lt_min.mpr ⟨hwpos, hfpos⟩, Nat.min_le_left _ _,
      Nat.le_trans (List.length_take_le _ _) (Nat.min_le_right _ _)⟩)
  next hs =>
    exact .inr (.inr ⟨rfl, hw, hfpos, Nat.lt_min.mpr ⟨Nat.pos_of_ne_zero hs, hwpos⟩, Nat.min_le_right _ _,
      Nat.zero_le _⟩)

/-- RtlSdrDecode: it asks for 2 input bytes exactly when fewer than 2 are readable. -/
theorem c09_rtlsdr (w : List Nat) (f : Nat) :
    let r := rtlWork () ⟨[⟨w, [], true⟩], [⟨f, true⟩]⟩
    (r.2.verdict = .waitIn 0 2 ∧ w.length < 2) ∨
    (r.2.verdict = .waitOut 0 1 ∧ 2 ≤ w.length ∧ f = 0) ∨
    (r.2.verdict = .again ∧ 0 < r.2.consumed.getD 0 0 ∧ r.2.consumed.getD 0 0 ≤ w.length ∧
      (r.2.produced.getD 0 ⟨[], []⟩).samples.length ≤ f) := by
  intro r
  rw [show r = _ from rtlWork_one () w [] true f true]
  split
  next hw => exact .inl ⟨rfl, hw⟩
  split
  next hw hf => exact .inr (.inl ⟨rfl, Nat.le_of_not_lt hw, hf⟩)
  next hw hf =>
    -- `m = min ⌊|w|/2⌋ f ≥ 1` pairs: `2·m` bytes in, at most `m` samples out
    have hm : 0 < min (w.length / 2) f :=
      Nat.lt_min.mpr ⟨Nat.div_pos (Nat.le_of_not_lt hw) (by decide), Nat.pos_of_ne_zero hf⟩
    exact .inr (.inr ⟨rfl, Nat.mul_pos (by decide) hm,
      Nat.le_trans (Nat.mul_le_mul_left 2 (Nat.min_le_left _ _)) (Nat.mul_div_le _ _),
      Nat.le_trans (List.length_take_le _ _) (Nat.min_le_right _ _)⟩)

/-! Non-vacuity. -/
example : (syncWork tee () ⟨[⟨[], [], false⟩], [⟨4, true⟩, ⟨4, true⟩]⟩).2.verdict = .waitIn 0 1 := by decide
example : (skipWork 3 ⟨[⟨[1, 2], [], true⟩], [⟨4, true⟩]⟩).2.consumed = [2] := by decide

/-- FIR filter (any arithmetic, any decimation): it waits for input exactly when fewer than
`ntaps + deci - 1` samples are readable — and names that amount, with which it WILL make
progress —, for output exactly when there is no room, and otherwise consumes a positive
multiple of `deci`, within the window, committing no more than the free space. -/
theorem c09_fir {α : Type} (o : Dsp.Ops α) (cd : Dsp.Codec α) (rt : List α) (deci : Nat) (w : List Nat)
    (ts : List Tag) (f : Nat) (hd : 0 < deci) (ht : 0 < rt.length) :
    let r := Dsp.firWork o cd rt deci () ⟨[⟨w, ts, true⟩], [⟨f, true⟩]⟩
    (r.2.verdict = .waitIn 0 (rt.length + deci - 1) ∧ w.length < rt.length + deci - 1 ∧ r.2.consumed = [0]) ∨
    (r.2.verdict = .waitOut 0 1 ∧ rt.length + deci - 1 ≤ w.length ∧ f = 0 ∧ r.2.consumed = [0]) ∨
    (r.2.verdict = .again ∧ rt.length + deci - 1 ≤ w.length ∧ 0 < f ∧
      0 < r.2.consumed.getD 0 0 ∧ r.2.consumed.getD 0 0 % deci = 0 ∧
      r.2.consumed.getD 0 0 + rt.length - 1 ≤ w.length ∧
      (r.2.produced.getD 0 ⟨[], []⟩).samples.length = r.2.consumed.getD 0 0 / deci ∧
      (r.2.produced.getD 0 ⟨[], []⟩).samples.length ≤ f) := by
  intro r
  simp only [r, Dsp.firWork_one o cd rt deci hd ht]
  split
  next h1 => exact .inl ⟨rfl, h1, rfl⟩
  split
  next h1 h2 => exact .inr (.inl ⟨rfl, Nat.le_of_not_lt h1, h2, rfl⟩)
  next h1 h2 =>
  obtain ⟨hQ, hfit⟩ := Dsp.firCount_bounds rt.length deci w.length hd (Nat.le_of_not_lt h1)
  have hfit := hfit _ (Nat.min_le_left _ f)
  have hjf := Nat.min_le_right ((w.length - rt.length + 1) / deci) f
  have hj : 0 < min ((w.length - rt.length + 1) / deci) f := by omega
  generalize min ((w.length - rt.length + 1) / deci) f = j at *
  simp only [List.getD_cons_zero, Dsp.filterN, List.length_map, List.length_range, Nat.mul_div_cancel _ hd,
    Nat.mul_mod_left]
  exact .inr (.inr ⟨trivial, by omega, by omega, Nat.mul_pos hj hd, trivial, hfit, trivial, hjf⟩)

/-- **ZeroCrossing / SymbolSync (gated family), one call on any windows.** Unless the step panics:
consumption within the read window, the same number of samples committed on every output and within each
output's room; a wait names a stream that really is empty (input) or full (that very output) and nothing
was moved; `Again` only with at least one consumed sample. -/
theorem c09_gated (G : Gated) (hn : G.nout = 1 ∨ G.nout = 2) (st : G.σ) (w : List Nat) (f0 f1 : Nat) :
    let r := gatedWork G st ⟨[⟨w, [], true⟩], [⟨f0, true⟩, ⟨f1, true⟩]⟩
    let n := r.2.consumed.getD 0 0
    let p0 := (r.2.produced.getD 0 ⟨[], []⟩).samples
    let p1 := (r.2.produced.getD 1 ⟨[], []⟩).samples
    r.2.verdict = .panic ∨
    (n ≤ w.length ∧ p0.length ≤ f0 ∧ (G.nout = 2 → p1.length = p0.length ∧ p1.length ≤ f1) ∧ (G.nout = 1 → p1 = []) ∧
     (r.2.verdict = .waitIn 0 1 ∧ w = [] ∧ n = 0 ∨
      r.2.verdict = .waitOut 0 1 ∧ f0 = 0 ∧ n = 0 ∧ p0 = [] ∨
      r.2.verdict = .waitOut 1 1 ∧ G.nout = 2 ∧ f1 = 0 ∧ n = 0 ∧ p0 = [] ∨
      r.2.verdict = .again ∧ 0 < n)) := by
  -- a waiting call moves nothing (`n = 0`, `p0 = p1 = []`), which is within every bound; what is left is why it waits
  have idle : ∀ {P V : Prop}, V →
      P ∨ (0 ≤ w.length ∧ 0 ≤ f0 ∧ (G.nout = 2 → 0 = 0 ∧ 0 ≤ f1) ∧ (G.nout = 1 → ([] : List Nat) = []) ∧ V) :=
    fun h => .inr ⟨Nat.zero_le _, Nat.zero_le _, fun _ => ⟨rfl, Nat.zero_le _⟩, fun _ => rfl, h⟩
  fun_cases gatedWork G st ⟨[⟨w, [], true⟩], [⟨f0, true⟩, ⟨f1, true⟩]⟩ with
  | case1 _ hw => exact idle (.inl ⟨rfl, List.isEmpty_iff.mp hw, rfl⟩)
  | case2 _ _ hf0 => exact idle (.inr (.inl ⟨rfl, beq_iff_eq.mp hf0, rfl, rfl⟩))
  | case3 _ _ _ hf1 =>
    have hf1 : G.nout = 2 ∧ f1 = 0 := by simpa using hf1
    exact idle (.inr (.inr (.inl ⟨rfl, hf1.1, hf1.2, rfl, rfl⟩)))
  | case4 => exact .inl rfl
  | case5 _ hw hf0 hf1 maxOut st' n' rows' hl =>
    -- the loop ran, with room for `maxOut ≥ 1` rows
    intro r n p0 p1
    have hw : w ≠ [] := fun h => hw (List.isEmpty_iff.mpr h)
    have hf0 : f0 ≠ 0 := fun h => hf0 (beq_iff_eq.mpr h)
    have hf1 : ¬(G.nout = 2 ∧ f1 = 0) := by simpa using hf1
    have hm : 0 < maxOut ∧ maxOut ≤ f0 ∧ (G.nout = 2 → maxOut ≤ f1) := by
      have e : maxOut = if G.nout = 2 then min f0 f1 else f0 := by simp only [maxOut, beq_iff_eq]; rfl
      rw [e]
      split <;> omega
    obtain ⟨m, hn', hmw, _, hrows, hprog⟩ := gatedLoop_spec G maxOut w st 0 [] st' n' rows' hl (Nat.zero_le _)
    obtain rfl : n' = m := hn'.trans (Nat.zero_add m)
    -- every column handed on is as long as the rows collected, `≤ maxOut`; without a clock output the second is empty
    have hp : p0.length = rows'.length ∧ (G.nout = 2 → p1.length = rows'.length) ∧ (G.nout = 1 → p1 = []) := by
      rcases hn with h | h <;> simp [p0, p1, r, h, List.range_succ]
    exact .inr ⟨hmw, hp.1 ▸ Nat.le_trans hrows hm.2.1,
      fun h => ⟨(hp.2.1 h).trans hp.1.symm, hp.2.1 h ▸ Nat.le_trans hrows (hm.2.2 h)⟩, hp.2.2,
      .inr (.inr (.inr ⟨rfl, hprog hm.1 hw⟩))⟩

example : (gatedWork (zcGated f32ZOps 4.0 2) (zcGated f32ZOps 4.0 2).init
    ⟨[⟨[1, 2], [], true⟩], [⟨3, true⟩, ⟨0, true⟩]⟩).2.verdict = .waitOut 1 1 := by
  simp [gatedWork, zcGated, noOut]

/-- **Delay**, one call on any windows: it waits for output space when there is none, or when the read window
is empty and the zeros it owes filled all the room (more are owed: the run must go on until they are out); for
input only when the read window is empty and no zeros are owed any more; otherwise it moves something — always
within both windows. `c09_delay_eof_sound`: its `eof()` is true only when a further call delivers nothing. -/
theorem c09_delay (cd : Nat) (w : List Nat) (ts : List Tag) (f : Nat) :
    let r := delayWork ⟨cd, 0⟩ ⟨[⟨w, ts, true⟩], [⟨f, true⟩]⟩
    let n := r.2.consumed.getD 0 0
    let p := (r.2.produced.getD 0 ⟨[], []⟩).samples
    n ≤ w.length ∧ p.length ≤ f ∧
    ((r.2.verdict = .waitOut 0 1 ∧ f = 0 ∧ n = 0 ∧ p = []) ∨
     (r.2.verdict = .waitOut 0 1 ∧ 0 < f ∧ w = [] ∧ n = 0 ∧ p.length = f ∧ f < cd) ∨
     (r.2.verdict = .waitIn 0 1 ∧ 0 < f ∧ w = [] ∧ n = 0 ∧ p.length = cd ∧ cd ≤ f) ∨
     (r.2.verdict = .again ∧ 0 < f ∧ w ≠ [] ∧ 0 < n + p.length)) := by
  intro r
  rw [show r = _ from delayWork_one_noskip cd w ts true f true]
  split
  next hf => exact ⟨Nat.zero_le _, Nat.zero_le _, .inl ⟨rfl, hf, rfl, rfl⟩⟩
  next hf =>
  have hfpos : 0 < f := Nat.pos_of_ne_zero hf
  intro n p
  -- `min cd f` zeros, then `n` samples: `f > 0` is room for one of them
  have hn : n = min w.length (f - cd) := rfl
  have hp : p.length = min cd f + n := by
    simp only [p, List.getD_cons_zero, List.length_append, List.length_replicate, List.length_take]
    exact congrArg _ (Nat.min_eq_left (Nat.min_le_left _ _))
  refine ⟨hn ▸ Nat.min_le_left _ _, by omega, .inr ?_⟩
  by_cases hw : w = []
  · have hn0 : n = 0 := by rw [hn, hw]; exact Nat.zero_min _
    by_cases hlt : f < cd
    · exact .inl ⟨(if_pos hw).trans (if_pos hlt), hfpos, hw, hn0, by omega, hlt⟩
    · exact .inr (.inl ⟨(if_pos hw).trans (if_neg hlt), hfpos, hw, hn0, by omega, by omega⟩)
  · have hwpos : 0 < w.length := List.length_pos_iff.mpr hw
    exact .inr (.inr ⟨if_neg hw, hfpos, hw, by omega⟩)

/-- Delay's `eof()` (input ended and drained, no zeros owed) is sound: a further call delivers nothing. The
derived `eof()` was not: with zeros still owed it answered true (`c09_delay_old_eof_unsound`; `fix:` in /repo). -/
theorem c09_delay_eof_sound (st : DelaySt) (ts : List Tag) (f : Nat)
    (h : delayEof st ⟨[⟨[], ts, false⟩], [⟨f, true⟩]⟩ = true) :
    ((delayWork st ⟨[⟨[], ts, false⟩], [⟨f, true⟩]⟩).2.produced.getD 0 ⟨[], []⟩).samples = [] := by
  have hcd : st.currentDelay = 0 := by
    simpa [delayEof, macroEof] using h
  rw [delayWork_one, hcd]
  split <;> simp

theorem c09_delay_old_eof_unsound :
    macroEof ⟨[⟨[], [], false⟩], [⟨4, true⟩]⟩ = true ∧
    ((delayWork ⟨3, 0⟩ ⟨[⟨[], [], false⟩], [⟨4, true⟩]⟩).2.produced.getD 0 ⟨[], []⟩).samples = [0, 0, 0] := by
  decide

/-- **AuEncode**, one call on any windows and in every state: with header bytes left it waits only for a
completely full output; afterwards for input only when the window is empty and for exactly two bytes of
output when fewer than two are free (so that granting the request lets it progress); otherwise it moves data. -/
theorem c09_au_encode (q : Nat → Nat) (st : Au.EncSt) (hst : st ≠ some []) (w : List Nat) (f : Nat) :
    let r := Au.encWork q st ⟨[⟨w, [], true⟩], [⟨f, true⟩]⟩
    let n := r.2.consumed.getD 0 0
    let p := (r.2.produced.getD 0 ⟨[], []⟩).samples
    n ≤ w.length ∧ p.length ≤ f ∧
    ((r.2.verdict = .waitOut 0 1 ∧ st ≠ none ∧ f = 0 ∧ n = 0 ∧ p = []) ∨
     (r.2.verdict = .waitIn 0 1 ∧ st = none ∧ w = [] ∧ n = 0 ∧ p = []) ∨
     (r.2.verdict = .waitOut 0 2 ∧ st = none ∧ w ≠ [] ∧ f < 2 ∧ n = 0 ∧ p = []) ∨
     (r.2.verdict = .again ∧ 0 < n + p.length)) := by
  fun_cases Au.encWork q st ⟨[⟨w, [], true⟩], [⟨f, true⟩]⟩ with
  | case1 _ h hf => exact ⟨Nat.zero_le _, Nat.zero_le _, .inl ⟨rfl, nofun, beq_iff_eq.mp hf, rfl, rfl⟩⟩
  | case2 _ h hf k rest =>
    -- header bytes left: `k = min |h| f > 0` of them go out
    intro r n p
    have hp : p.length = min k h.length := List.length_take ..
    have hh : 0 < h.length := List.length_pos_iff.mpr fun e => hst (congrArg some e)
    have hf : f ≠ 0 := fun e => hf (beq_iff_eq.mpr e)
    have hk : k = min h.length f := rfl
    exact ⟨Nat.zero_le _, by omega, .inr (.inr (.inr ⟨rfl, by show 0 < 0 + p.length; omega⟩))⟩
  | case3 _ hw => exact ⟨Nat.zero_le _, Nat.zero_le _, .inr (.inl ⟨rfl, rfl, List.isEmpty_iff.mp hw, rfl, rfl⟩)⟩
  | case4 _ _ hw k hk =>
    have hw : w ≠ [] := mt List.isEmpty_iff.mpr hw
    have hk : min w.length (f / 2) = 0 := beq_iff_eq.mp hk
    have := List.length_pos_iff.mpr hw
    exact ⟨Nat.zero_le _, Nat.zero_le _, .inr (.inr (.inl ⟨rfl, rfl, hw, by omega, rfl, rfl⟩))⟩
  | case5 _ _ _ k hk =>
    -- `n = min |w| ⌊f/2⌋ > 0` samples, two bytes each
    intro r n p
    have hn : n = min w.length (f / 2) := rfl
    have hp : p.length = 2 * (w.take k).length := Au.body_length q _
    have hk : n ≠ 0 := fun e => hk (beq_iff_eq.mpr e)
    rw [List.length_take, show k = n from rfl] at hp
    exact ⟨by omega, by omega, .inr (.inr (.inr ⟨rfl, by omega⟩))⟩

/-- **VecToStream**: a packet that does not fit makes the block ask for exactly the packet's length on its
output (with which the next call emits it); see `c10_v2s_call`. -/
theorem c09_v2s (p : List Nat) (hp : ∀ x ∈ p, x + 1 < pktBase) (rest : List Nat) (f : Nat) (hfit : p.length > f) :
    let r := v2sWork () ⟨[⟨encodePkt p :: rest, [], true⟩], [⟨f, true⟩]⟩
    r.2.verdict = .waitOut 0 p.length ∧ r.2.consumed.getD 0 0 = 0 ∧
    (let r' := v2sWork () ⟨[⟨encodePkt p :: rest, [], true⟩], [⟨p.length, true⟩]⟩
     r'.2.verdict = .again ∧ (r'.2.produced.getD 0 ⟨[], []⟩).samples = p) := by
  simp only [v2sWork_cons p hp, hfit, if_true, gt_iff_lt, Nat.lt_irrefl, if_false]
  exact ⟨trivial, rfl, trivial, rfl⟩

/-- **RationalResampler**, one call on any windows (any ratio, any counter): it reports "waiting for input" only
when the read window is empty or it has just consumed ALL of it, and "waiting for output" only when the output
is full (now, or already before the call); it never asks to be called again without a reason. -/
theorem c09_resampler (I D : Int) (cnt : Int) (w : List Nat) (f : Nat) :
    let r := resWork I D cnt ⟨[⟨w, [], true⟩], [⟨f, true⟩]⟩
    (r.2.verdict = .waitIn 0 1 ∧ (w = [] ∨ (0 < f ∧ r.2.consumed.getD 0 0 = w.length))) ∨
    (r.2.verdict = .waitOut 0 1 ∧ w ≠ [] ∧ (f = 0 ∨ (r.2.produced.getD 0 ⟨[], []⟩).samples.length = f)) := by
  intro r
  rw [show r = _ from resWork_one I D cnt w [] true f true]
  split
  next hw => exact .inl ⟨rfl, .inl hw⟩
  split
  next hw hf => exact .inr ⟨rfl, hw, .inl hf⟩
  next hw hf =>
    obtain ⟨c', k, o, full, hr, g3, _⟩ := res_rel I D f w cnt 0 []
    rw [hr]
    cases full
    · exact .inl ⟨rfl, .inr ⟨Nat.pos_of_ne_zero hf, g3 ▸ Nat.zero_add k⟩⟩
    · exact .inr ⟨rfl, hw, .inr g3⟩

/-- Generator sources: with a full output the call changes nothing and waits for room on that output (no
polling with `Again`); with room it fills exactly the room offered and asks to be called again. -/
theorem c09_generator_source (G : GenSrc) (s : G.σ) (f : Nat) :
    let r := genWork G s ⟨[], [⟨f, true⟩]⟩
    (r.2.produced.getD 0 ⟨[], []⟩).samples.length = f ∧
    (f = 0 → r.2.verdict = .waitOut 0 1 ∧ r.1 = s) ∧
    (0 < f → r.2.verdict = .again) := by
  intro r
  rw [show r = _ from genWork_one G s f]
  exact ⟨genTake_length G f s, fun h => by subst h; exact ⟨rfl, rfl⟩, fun h => if_neg (Nat.ne_of_gt h)⟩

/-- VectorSink and NullSink: every call consumes the whole read window — also when the VectorSink is full —
so the wait for one more input sample that they report is truthful (the window is empty after the call),
and an ended input is drained. -/
theorem c09_vector_sink (max st : Nat) (w : List Nat) (ts : List Tag) (al : Bool) :
    let r := vsinkWork max st ⟨[⟨w, ts, al⟩], []⟩
    r.2.consumed = [w.length] ∧ r.2.verdict = .waitIn 0 1 ∧
    (r.2.produced.getD 0 ⟨[], []⟩).samples.length ≤ w.length := by
  intro r
  obtain ⟨_, hconsumed, hstored, _, hverdict⟩ := vsink_call max st w ts al []
  refine ⟨hconsumed, hverdict, ?_⟩
  rw [hstored, List.length_take]; exact Nat.min_le_right _ _

theorem c09_null_sink (w : List Nat) (ts : List Tag) (al : Bool) :
    let r := nullWork () ⟨[⟨w, ts, al⟩], []⟩
    r.2.consumed = [w.length] ∧ r.2.verdict = .waitIn 0 1 := by
  intro r
  obtain ⟨hconsumed, _, hverdict⟩ := null_call w ts al
  exact ⟨hconsumed, hverdict⟩

/-- FftFilterFloat (a complex FftFilter between two inner streams): when its `eof()` answers true — outer input
ended and drained, nothing in the inner output stream, less than a batch between the wrapped filter's buffer
and the inner input stream — and a reader is still there, a further `work()` call takes nothing and delivers
nothing: a runner that retires the block on that answer loses no sample. Any arithmetic, taps, stream capacity
and state. -/
theorem c09_fft_float_eof_sound {α : Type} (o : Dsp.Ops α) (cd : Dsp.Codec α) (taps : List α) (cap : Nat)
    (toIn toOut : Nat → Nat) (s : WrapSt (Dsp.FftSt α)) (ts : List Tag) (f : Nat)
    (h : wrapEof (Dsp.fftNeed taps) s ⟨[⟨[], ts, false⟩], [⟨f, true⟩]⟩ = true) :
    let r := wrapWork (Dsp.fftBlock o cd taps) cap toIn toOut s ⟨[⟨[], ts, false⟩], [⟨f, true⟩]⟩
    r.2.consumed = [0] ∧ (r.2.produced.getD 0 ⟨[], []⟩).samples = [] :=
  wrapEof_sound (Dsp.fftBlock o cd taps) cap toIn toOut (Dsp.fftNeed taps)
    (fun st w ts f => Dsp.fftWork_short o cd taps st w ts true f) s ts f h

/-- The derived `eof()` (outer input ended and drained) did not have that property: a state with one sample
waiting in the inner output stream answers true and then delivers that sample. (The defect repaired by
`fix:` 88f9b55.) -/
theorem c09_fft_float_old_eof_unsound :
    let s : WrapSt (Dsp.FftSt Dsp.GI) := ⟨⟨[], [], [(0, 0)]⟩, ⟨[], []⟩, ⟨[7], []⟩⟩
    let v : View := ⟨[⟨[], [], false⟩], [⟨4, true⟩]⟩
    macroEof v = true ∧ wrapEof (Dsp.fftNeed [((1, 0) : Dsp.GI)]) s v = false ∧
    ((wrapWork (Dsp.fftBlock Dsp.giOps Dsp.giCodec [(1, 0)]) 512 id id s v).2.produced.getD 0 ⟨[], []⟩).samples = [7] := by
  decide

/-- `CmaEqualizer` (model `Dsp.cmaBlock`, compared call by call): a wait on the input is issued only when fewer
than `ntaps` samples are readable, a wait on the output only when the input would do and fewer than `ntaps` are
free — each for exactly the amount that is missing, with nothing consumed, produced or changed — and every other
call consumes `ntaps` samples. -/
theorem c09_cma_verdicts (n : Nat) (m s : Float32) (taps : List Dsp.C32) (v : View) :
    let r := Dsp.cmaWork n m s taps v
    (r.2.verdict = .waitIn 0 n ∧ (in0 v).samples.length < n ∧ r.1 = taps ∧ r.2 = noOut v (.waitIn 0 n)) ∨
    (r.2.verdict = .waitOut 0 n ∧ n ≤ (in0 v).samples.length ∧ (out0 v).free < n ∧ r.1 = taps ∧
      r.2 = noOut v (.waitOut 0 n)) ∨
    (r.2.verdict = .again ∧ n ≤ (in0 v).samples.length ∧ n ≤ (out0 v).free ∧ r.2.consumed = [n]) := by
  fun_cases Dsp.cmaWork n m s taps v with
  | case1 _ h1 => exact .inl ⟨rfl, h1, rfl, rfl⟩
  | case2 _ h1 h2 => exact .inr (.inl ⟨rfl, Nat.le_of_not_lt h1, h2, rfl, rfl⟩)
  | case3 _ h1 h2 => exact .inr (.inr ⟨rfl, Nat.le_of_not_lt h1, Nat.le_of_not_lt h2, rfl⟩)

end RR.Props.C09
