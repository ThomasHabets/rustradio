import RR.Gen.WaitsStatus
import RR.Proof.Kpn
import RR.Proof.KpnRun
import RR.Proof.SchedMt
import RR.Proof.Sync
import RR.Proof.Wait
import RR.Gen.Waits
import RR.Proof.KpnRetire

/-!
# C05 — multithreaded runner: terminates with the schedule-independent reference result

The argument has four layers, each a theorem:

1. **Blocks** (C08): for every schedule, a block's cumulative output is its
   history function of what it consumed (`driveG_eq_oneShot`, `skip_drive`, …),
   so nothing consumed is held back and nothing depends on chunking.
2. **Waits** (C04): a `true` wait is only given when the peer is gone and the
   remainder is insufficient, and it arrives one completed call after that.
3. **Thread loop** (`RR.Sched.mtLoop`, tied to the real `MTGraph::run` by
   scripted blocks): a block thread ends only by cancel, error, `EOF`,
   `b.eof()` or a `true` wait; it always ends when the block's answers are
   finite; `run()` joins all threads.
4. **Graph** (`RR.Kpn`): the graph is a DAG; a state in which every block's
   output histories are its function of its input histories is unique and
   equals the sequential reference execution — no hypothesis mentions
   interleaving, timeouts, stream size or add order.

Partial: that the OS schedules every thread (fairness) and that bounded buffers
do not deadlock a reconvergent graph whose branch skew exceeds the stream
capacity are assumptions, not theorems.
-/
namespace RR.Props.C05
open RR

/-- Layer 4: any quiescent assignment of histories to the streams of the DAG is
the sequential reference evaluation of the blocks in creation order. -/
theorem c05_result (nodes : List Kpn.Node) (h : List (List Nat)) (q : Kpn.Quiescent nodes 0 h) :
    h = Kpn.eval nodes [] := Kpn.quiescent_is_reference nodes h q

/-- Layer 3: the only ways out of a block thread's loop. -/
theorem c05_exit_reasons (script : Sched.Script) (cancelAt : Option Nat) (k fuel : Nat) :
    let r := Sched.mtLoop script cancelAt k fuel
    r.2 = .outOfFuel ∨
    (r.2 = .cancelled ∧ Sched.seenCancel cancelAt r.1 = true) ∨
    (r.2 = .failed ∧ (Sched.callAt script (r.1 - 1)).v = .err ∧ 0 < r.1) ∨
    (r.2 = .eof ∧ (Sched.callAt script (r.1 - 1)).v = .eof ∧ 0 < r.1) ∨
    (r.2 = .retired ∧ 0 < r.1 ∧
      ((Sched.callAt script (r.1 - 1)).eofAfter = true ∨
       ∃ c, (Sched.callAt script (r.1 - 1)).v = .waitStream c true)) := by
  refine (Sched.mtLoop_exit script cancelAt k fuel).imp And.left (Or.imp_right fun ⟨h0, he⟩ => ?_)
  simpa [h0] using Sched.Call.mtExit_some _ _ he

/-- Layer 3: every block thread terminates when its block's answers are finite
(the runner adds no livelock of its own). -/
theorem c05_thread_terminates (script : Sched.Script) (cancelAt : Option Nat) :
    (Sched.mtThread script cancelAt).2 ≠ .outOfFuel :=
  Sched.mtLoop_terminates script cancelAt 0 _ (by omega) (Nat.zero_le _)

/-- Layer 3: `run()` is `Ok` iff no block thread failed — independent of the
order in which the blocks were added. -/
theorem c05_add_order_irrelevant (e1 e2 : List Sched.Exit) (h : ∀ x, x ∈ e1 ↔ x ∈ e2) :
    Sched.mtResult e1 = .ok ↔ Sched.mtResult e2 = .ok := by
  simp only [Sched.mtResult_ok, h]

/-- Layer 2 (re-stated from C04 for the read side of copy streams): a block is
retired through a `true` wait only when its writer is gone and fewer samples
than it asked for remain; committed data is never discarded by that decision. -/
theorem c05_exit_lossless_wait : Wait.SoundReader Gen.readWait ∧
    (∀ prog s k, (Wait.exec prog s {} (List.replicate k none)).1 = s) :=
  ⟨Wait.sound_amountLast (by decide), fun prog s k => Wait.exec_no_discard prog s {} k⟩

/-- Layer 1 (re-stated from C08 for the sync family): whatever the
interleaving did to the chunking, a block's cumulative output is the one-shot
function of what it consumed. -/
theorem c05_block_invariant (S : Blk.SyncSpec) (get : Nat → List Nat × List (List Blk.Tag))
    (st : S.σ) (c : Nat) (chunks : List Nat) :
    Blk.driveG S get st c chunks =
      (Blk.syncLoopG S get st c chunks.sum).map fun (s, rows, ts) => (s, c + chunks.sum, rows, ts) :=
  Blk.driveG_eq_oneShot S get st c chunks

/-- Layers 1+4 composed operationally: a graph state = the history committed on every stream and how much of
each input every block has consumed; a step = ANY one block consumes more of what exists and extends its outputs,
which stay a prefix of its history function of what it has consumed (what the C08 theorems say any sequence of
`work()` calls of that block does). **For every sequence of such steps** — any interleaving, any amounts, any
number of steps, so also any stream size, wait timeout or add order — the invariant holds … -/
theorem c05_every_schedule_invariant (nodes : List Kpn.Node)
    (hw : ∀ m, (hm : m < nodes.length) → ∀ i ∈ nodes[m].ins, i < Kpn.base nodes m)
    (s : Kpn.GState) (r : Kpn.Run nodes ⟨List.replicate (Kpn.base nodes nodes.length) [], []⟩ s) :
    Kpn.Inv nodes s :=
  Kpn.run_inv nodes _ s (Kpn.inv_init nodes hw) r

/-- … and every run that ends with everything consumed and emitted has computed the sequential reference
execution, whatever the schedule was. -/
theorem c05_every_schedule_result (nodes : List Kpn.Node)
    (hw : ∀ m, (hm : m < nodes.length) → ∀ i ∈ nodes[m].ins, i < Kpn.base nodes m)
    (s : Kpn.GState) (r : Kpn.Run nodes ⟨List.replicate (Kpn.base nodes nodes.length) [], []⟩ s)
    (hall : Kpn.AllConsumed nodes s) : s.h = Kpn.eval nodes [] :=
  Kpn.run_terminal nodes hw s r hall

/-- Steps exist: the executable `stepFn` (block `idx` consumes up to `cs'` and emits all its function gives) is a
step whenever the amounts are available and the block's function is prefix-monotone at that point. -/
theorem c05_step_exists (nodes : List Kpn.Node) (idx : Nat) (cs' : List Nat) (s : Kpn.GState) (hidx : idx < nodes.length)
    (hinv : Kpn.Inv nodes s)
    (hmono : ∀ k, (s.cs.getD idx []).getD k 0 ≤ cs'.getD k 0)
    (hav : ∀ k, k < nodes[idx].ins.length → cs'.getD k 0 ≤ (s.h.getD (nodes[idx].ins.getD k 0) []).length)
    (hext : ∀ j, j < nodes[idx].nout → ∃ ext,
      (nodes[idx].F (Kpn.consumedOf nodes[idx] s.h cs')).getD j [] = s.h.getD (Kpn.base nodes idx + j) [] ++ ext) :
    Kpn.Step nodes idx s (Kpn.stepFn nodes idx cs' s) := by
  have hb : Kpn.base nodes idx + nodes[idx].nout ≤ s.h.length :=
    hinv.1 ▸ Kpn.base_add_le nodes idx nodes.length hidx hidx
  have hcs := Kpn.stepFn_cs nodes idx cs' s hidx
  have hh := Kpn.stepFn_h nodes idx cs' s hidx hb
  refine { hidx := hidx, len := by simp [Kpn.stepFn, List.getElem?_eq_getElem hidx],
           cs_other := ?cs_other, cs_mono := ?cs_mono, cs_avail := ?cs_avail, outs := ?outs, grow := ?grow,
           others := ?others }
  case cs_other => intro m hm; rw [hcs, if_neg hm]
  case cs_mono => intro k; rw [hcs, if_pos rfl]; exact hmono k
  case cs_avail => intro k hk; rw [hcs, if_pos rfl]; exact hav k hk
  case outs =>
    intro j hj
    rw [hcs, if_pos rfl, hh, if_pos (by omega), Nat.add_sub_cancel_left]
    exact ⟨[], (List.append_nil _).symm⟩
  case grow =>
    intro t
    rw [hh]
    split
    · next ht =>
      obtain ⟨ext, he⟩ := hext (t - Kpn.base nodes idx) (by omega)
      rw [Nat.add_sub_cancel' ht.1] at he
      exact ⟨ext, he⟩
    · exact ⟨[], (List.append_nil _).symm⟩
  case others =>
    intro t ht
    rw [hh, if_neg (by omega)]

/-! Non-vacuity: a tee/merge diamond (source; tee; +1 on one branch; add) has one quiescent state. -/
def diamond : List Kpn.Node :=
  [ ⟨[], 1, fun _ => [[1, 2, 3]]⟩,
    ⟨[0], 2, fun xs => [xs.getD 0 [], xs.getD 0 []]⟩,
    ⟨[1], 1, fun xs => [(xs.getD 0 []).map (· + 1)]⟩,
    ⟨[3, 2], 1, fun xs => [List.zipWith (· + ·) (xs.getD 0 []) (xs.getD 1 [])]⟩ ]

example : Kpn.eval diamond [] = [[1, 2, 3], [1, 2, 3], [1, 2, 3], [2, 3, 4], [3, 5, 7]] := by decide

/-- an interleaved schedule on the diamond (source; tee consumes 2; the +1 branch 1; the adder 1+1; … ) ends in the
reference result -/
example :
    let s0 : Kpn.GState := ⟨List.replicate 5 [], []⟩
    let sched : List (Nat × List Nat) :=
      [(0, []), (1, [2]), (2, [1]), (3, [1, 1]), (1, [3]), (3, [1, 2]), (2, [3]), (3, [3, 3])]
    (sched.foldl (fun s p => Kpn.stepFn diamond p.1 p.2 s) s0).h = Kpn.eval diamond [] := by decide

/-- **Retiring blocks.** Both runners stop calling a block once its `eof()` has answered true after a wait verdict,
or once the wait it reported can never be satisfied (the named stream's peer is gone and too little is left).
With the set of retired blocks added to the graph state (a retired block takes no more steps): for EVERY
interleaving of block steps and retirements in which each retirement was *sound* — every stream the block reads
belongs to an already retired block, the block has consumed all of it and emitted everything its history function
gives — the state in which all blocks are retired holds the sequential reference execution on every stream. -/
theorem c05_retire_all_is_reference (nodes : List Kpn.Node)
    (hw : ∀ m, (hm : m < nodes.length) → ∀ i ∈ nodes[m].ins, i < Kpn.base nodes m)
    (R : List Nat) (s : Kpn.GState)
    (r : Kpn.RRun nodes ([], ⟨List.replicate (Kpn.base nodes nodes.length) [], []⟩) (R, s))
    (hall : ∀ m, m < nodes.length → m ∈ R) : s.h = Kpn.eval nodes [] :=
  Kpn.retire_all_is_reference nodes hw R s r hall

/-- The soundness of the retirements is needed: a pass-through block that has consumed its three input samples
and delivered two of them (the third still inside — `FftFilterFloat` before `fix:` 88f9b55) is in a reachable
state that satisfies the invariant; retiring it there ends the run with `[1, 2]` where the reference has
`[1, 2, 3]`. -/
theorem c05_unsound_retire_loses :
    Kpn.Run Kpn.lagNodes Kpn.lagS0 Kpn.lagS2 ∧ Kpn.Inv Kpn.lagNodes Kpn.lagS2 ∧
    ¬ Kpn.Done Kpn.lagNodes Kpn.lagS2 1 (by decide) ∧
    Kpn.lagS2.h.getD 1 [] = [1, 2] ∧ (Kpn.eval Kpn.lagNodes []).getD 1 [] = [1, 2, 3] :=
  Kpn.unsound_retire_loses

end RR.Props.C05
