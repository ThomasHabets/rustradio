import RR.Proof.Source
import RR.Proof.FileSrc
import RR.Proof.SigmfSrc

/-!
# C16 — finite sources emit their data exactly `repeat` times, then EOF

Models: `RR.Src.Repeat` (src/lib.rs) with checked `u64` arithmetic and
`RR.Src.vsWork` (VectorSource::work), `RR.Src.fsWork` (FileSource::work, read
through a buffered reader that may return short reads), `RR.Src.sgWork`
(SigMFSource::work over the data range of a recording or archive member). All three are
compared call by call with the real blocks (`blk vsrc|fsrc|sgsrc` lines); in addition the real
blocks are checked against the specification directly (`!src` lines: total
output = data x repeat exactly, EOF exactly at the end, never for infinite).
-/
namespace RR.Props.C16
open RR RR.Src RR.Blk

/-- The repeat counter: `k ≤ n` calls of `again()` on `finite(n)` all succeed,
the `j`-th says "continue" iff repetitions remain, the count is `k`, and the
repeat is done exactly when `k = n`; nothing over- or underflows. -/
theorem c16_repeat_algebra (n k : Nat) (hk : k ≤ n) (hn : k < 2 ^ 64) :
    againN k (Repeat.finite n) =
      some (⟨.finite (n - k), k⟩, (List.range k).map fun j => decide (n - j > 1)) ∧
    ((⟨.finite (n - k), k⟩ : Repeat).done = true ↔ k = n) := by
  have := againN_finite n k 0 hk (by omega)
  simp only [Nat.zero_add] at this
  refine ⟨this, ?_⟩
  simp [Repeat.done]; omega

/-- The only way to underflow is to call `again()` when `done()` (a precondition that
every call site now establishes: `VectorSource`, `FileSource`, `SigMFSource` test `done()` first). -/
theorem c16_underflow_only_when_done (x : Repeat) (hc : x.count + 1 < 2 ^ 64) :
    x.again = none ↔ x.done = true := by
  obtain ⟨r, c⟩ := x
  have hov : ¬ (c + 1 ≥ 2 ^ 64) := by simp at hc; omega
  cases r with
  | finite n => by_cases h : n = 0 <;> simp [Repeat.again, Repeat.done, hov, h]
  | infinite => simp [Repeat.again, Repeat.done, hov]

/-- An infinite repeat never ends. -/
theorem c16_infinite (k : Nat) (hk : k < 2 ^ 64) :
    againN k Repeat.infinite = some (⟨.infinite, k⟩, List.replicate k true) ∧
    (⟨.infinite, k⟩ : Repeat).done = false := by
  have := againN_infinite k 0 (by omega)
  simp only [Nat.zero_add] at this
  exact ⟨this, rfl⟩

/-- **VectorSource**: for every consumption schedule (free space seen by each
call) the cumulative output is whole repetitions followed by a prefix of the
data, never anything else; and if some call answered `EOF`, exactly `n`
repetitions have been emitted. -/
theorem c16_vector (data : List Nat) (n : Nat) (hn0 : 0 < n) (hn : n < 2 ^ 64) (hd : data ≠ [])
    (frees : List Nat) :
    let r := driveSrc data ⟨0, Repeat.finite n⟩ [] false frees
    Good data n r.1 ∧ r.2.1 = emitted data n r.1 ∧ (r.2.2 = true → r.2.1 = rept n data) :=
  srcDrive_inv (driveSrc data) (fun _ _ _ => rfl) (fun _ _ _ _ _ => rfl) (vs_step data n hn hd) frees _ _ false
    ⟨n, rfl, rfl, Or.inr (List.length_pos_iff.mpr hd), Nat.zero_le _⟩ (repEmitted_finite data n hn0).symm nofun

/-- `repeat = 0` (or an empty vector): EOF at once, nothing emitted. -/
theorem c16_vector_zero (data : List Nat) (v : View) :
    (vsWork data ⟨0, Repeat.finite 0⟩ v).2.verdict = .eof ∧
    (vsWork [] ⟨0, Repeat.finite 3⟩ v).2.verdict = .eof :=
  ⟨by rw [vsWork_one, if_pos (.inr rfl)]; rfl, by rw [vsWork_one, if_pos (.inl rfl)]; rfl⟩

/-- Marker tags: only on the first sample of a repetition (`pos = 0`), `first`
only in repetition 0 — once per repetition, however the repetition is split. -/
theorem c16_marker_tags (data : List Nat) (st : VSt) (f : Nat) (hd : data ≠ []) (hnd : st.rep.done = false)
    (hf : 0 < f) (hp : st.pos < data.length) (hc : st.rep.count + 1 < 2 ^ 64) :
    ((vsWork data st ⟨[], [⟨f, true⟩]⟩).2.produced.getD 0 ⟨[], []⟩).tags =
      (if st.pos == 0 then [⟨0, keyStart, 1⟩, ⟨0, keyRepeat, st.rep.count⟩] else []) ++
      (if st.pos == 0 && st.rep.count == 0 then [⟨0, keyFirst, 1⟩] else []) := by
  have hag : st.rep.again ≠ none := by
    intro h
    have := (c16_underflow_only_when_done st.rep hc).mp h
    rw [hnd] at this; cases this
  rw [vsWork_one, out0_cons, if_neg (by simp [hd, hnd]), if_neg (Nat.ne_of_gt hf)]
  dsimp only
  split
  · split
    · rename_i h; exact absurd h hag
    · split <;> rfl
  · rfl

/-- **FileSource**: for every consumption schedule (free space seen by each call), for files whose
length is or is not a whole number of samples, and however the buffered reader cuts its reads, the
cumulative output is whole repetitions of the file's whole samples followed by the first
`pos / size` of them, never anything else (a trailing partial sample is never carried into the next
repetition); and if some call answered `EOF`, exactly `n` repetitions have been emitted. -/
theorem c16_file (file : List Nat) (size n : Nat) (hs : 0 < size) (hn0 : 0 < n) (hn : n < 2 ^ 64)
    (frees : List Nat) :
    let r := fsDrive file size ⟨0, 0, [], Repeat.finite n⟩ [] false frees
    FsGood file size n r.1 ∧ r.2.1 = fsEmitted file size n r.1 ∧
      (r.2.2 = true → r.2.1 = rept n (fileSamples file size)) :=
  srcDrive_inv (fsDrive file size) (fun _ _ _ => rfl) (fun _ _ _ _ _ => rfl) (fs_step file size n hs hn) frees _ _ false
    ⟨n, rfl, rfl, Nat.zero_le _, Nat.zero_le _, by simp⟩ (by simp [samplesOf, repEmitted_finite _ n hn0]) nofun

/-- One call of FileSource never over- or underflows the repeat counter, answers `EOF` exactly when
the last repetition has just been completed or was complete already, and `EOF` calls emit nothing. -/
theorem c16_file_step (file : List Nat) (size n : Nat) (hs : 0 < size) (hn : n < 2 ^ 64) (st : FsSt)
    (hg : FsGood file size n st) (f : Nat) :
    let r := fsWork file size st ⟨[], [⟨f, true⟩]⟩
    (r.2.verdict = .eof ↔ r.1.rep.r = .finite 0) ∧ r.2.verdict ≠ .panic ∧
    (r.2.verdict = .eof → fsEmitted file size n r.1 = rept n (fileSamples file size)) := by
  intro r
  obtain ⟨_, _, heofiff, _, hnpanic⟩ := fs_step file size n hs hn st f hg
  exact ⟨heofiff.trans (done_iff _), hnpanic, fun he => repEmitted_done (heofiff.mp he) _ _ _⟩

/-- `repeat = 0`: EOF at once, nothing emitted, nothing read. -/
theorem c16_file_zero (file : List Nat) (size : Nat) (v : View) :
    fsWork file size ⟨0, 0, [], Repeat.finite 0⟩ v = (⟨0, 0, [], Repeat.finite 0⟩, noOut v .eof) := by
  rw [fsWork_one _ _ _ _ (Nat.zero_div _)]; exact if_pos rfl

/-! Non-vacuity: a 7-byte file of 2-byte samples (one stray byte), 2 repetitions, space 1, 1, 5, … -/
example : (fsDrive [1, 0, 2, 0, 3, 0, 9] 2 ⟨0, 0, [], Repeat.finite 2⟩ [] false [1, 1, 5, 0, 5, 2, 5, 5, 5]).2 =
    ([1, 2, 3, 1, 2, 3], true) := by
  decide

/-- **SigMFSource**: for every consumption schedule the cumulative output is whole repetitions of
the recording's whole samples followed by a prefix of them; if some call answered `EOF`, exactly
`n` repetitions have been emitted. -/
theorem c16_sigmf (data : List Nat) (size n : Nat) (hs : 0 < size) (hn0 : 0 < n) (hn : n < 2 ^ 64)
    (hd : data ≠ []) (frees : List Nat) :
    let r := sgDrive data size ⟨data.length, [], Repeat.finite n⟩ [] false frees
    SgGood data size n r.1 ∧ r.2.1 = sgEmitted data size n r.1 ∧
      (r.2.2 = true → r.2.1 = rept n (fileSamples data size)) :=
  srcDrive_inv (sgDrive data size) (fun _ _ _ => rfl) (fun _ _ _ _ _ => rfl) (sg_step data size n hs hn hd) frees _ _ false ⟨n, rfl, rfl, Nat.le_refl _, by simp⟩
    (by simp [samplesOf, repEmitted_finite _ n hn0]) nofun

/-- An empty recording, or `repeat = 0`: EOF at once, nothing emitted. -/
theorem c16_sigmf_zero (data : List Nat) (size : Nat) (rep : Repeat) (st : SgSt) (v : View) :
    sgWork [] size st v = (st, noOut v .eof) ∧
    sgWork data size ⟨data.length, [], Repeat.finite 0⟩ v = (⟨data.length, [], Repeat.finite 0⟩, noOut v .eof) :=
  ⟨by rw [sgWork_one, if_pos (.inl rfl)], by rw [sgWork_one, if_pos (.inr rfl)]⟩

example : (sgDrive [1, 0, 2, 0, 3, 0, 9] 2 ⟨7, [], Repeat.finite 2⟩ [] false [1, 1, 5, 0, 5, 2, 5, 5, 5]).2 =
    ([1, 2, 3, 1, 2, 3], true) := by
  decide

/-! Non-vacuity: 2 repetitions of 3 samples through space 2, 2, 5, 1, 9. -/
example : (driveSrc [7, 8, 9] ⟨0, Repeat.finite 2⟩ [] false [2, 2, 5, 1, 9]).2 = ([7, 8, 9, 7, 8, 9], true) := by
  decide

end RR.Props.C16
