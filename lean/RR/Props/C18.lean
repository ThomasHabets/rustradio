import RR.Model.Mmap
import RR.Gen.Mmap
import RR.Model.Ring

/-!
# C18 — streams release every mapping and descriptor; the two halves alias

Model: `RR.Mmap` — the process's mappings of the stream's temp file, in units of
the stream size `S`, and its descriptor. The call sequences `RR.Gen.vm*` are
regenerated on every run from an strace of the real code (set-up + drop; second
mmap refused; first mmap refused; sample size not dividing the buffer), so the
theorems are about what the code does now. Because lengths and offsets are in
units of `S` and relative to the base address, the statements hold for every
size and every address.

Partial: the kernel (`mmap`, `MAP_FIXED` replacement, `munmap`) is a parameter
of the model, not verified.
-/
namespace RR.Props.C18
open RR RR.Mmap

/-- While the stream exists, region unit 0 and region unit 1 are both backed by
file unit 0: byte `i` and byte `i + size` of the buffer are the same memory. -/
theorem c18_alias :
    let v := run VM.init (untilReturn Gen.vmSuccess)
    v.outcome = some true ∧ backing v 0 = some 0 ∧ backing v 1 = some 0 ∧ v.maps.length = 2 := by decide

/-- Create then drop: no mapping and no descriptor is left. -/
theorem c18_no_leak_success :
    (run VM.init Gen.vmSuccess).maps = [] ∧ (run VM.init Gen.vmSuccess).fdOpen = false := by decide

/-- The temp file's descriptor is already closed when the constructor returns
(the mappings keep the file alive), so a live stream costs no descriptor. -/
theorem c18_no_fd_while_alive : (run VM.init (untilReturn Gen.vmSuccess)).fdOpen = false := by decide

/-- Second mapping refused (size not a page multiple): reported as an error, everything unmapped —
in particular the first mapping is still `2·size` long when it is torn down. -/
theorem c18_no_leak_second_fails :
    (run VM.init Gen.vmSecondFails).outcome = some false ∧
    (run VM.init Gen.vmSecondFails).maps = [] ∧ (run VM.init Gen.vmSecondFails).fdOpen = false := by decide

/-- First mapping refused: error, nothing mapped, descriptor closed. -/
theorem c18_no_leak_first_fails :
    (run VM.init Gen.vmFirstFails).outcome = some false ∧
    (run VM.init Gen.vmFirstFails).maps = [] ∧ (run VM.init Gen.vmFirstFails).fdOpen = false := by decide

/-- A sample size that does not divide the buffer is refused before anything is opened or mapped. -/
theorem c18_elem_size_refused :
    (run VM.init Gen.vmElemSize).outcome = some false ∧ Gen.vmElemSize.length = 1 := by decide

/-- On every path (success, either mapping refused, bad element size) the stream unmaps and re-maps only
address space it holds at that moment: no `munmap` of a range already given back, no `MAP_FIXED` onto a range that
is not reserved — so a set-up or tear-down on one thread can never destroy or take over what another thread was
handed in between. -/
theorem c18_touches_only_own :
    ownOnly VM.init Gen.vmSuccess = true ∧ ownOnly VM.init Gen.vmSecondFails = true ∧
    ownOnly VM.init Gen.vmFirstFails = true ∧ ownOnly VM.init Gen.vmElemSize = true := by decide

/-- … and the predicate does see such faults: a second `munmap` of the reservation, or a `MAP_FIXED` after the
upper half was given back. -/
theorem c18_own_only_witnesses :
    ownOnly VM.init [.open_, .truncate 2, .mmap 2 true, .mmapFixed 1 1 false, .munmap 0 2, .munmap 0 2] = false ∧
    ownOnly VM.init [.open_, .truncate 2, .mmap 2 true, .munmap 1 1, .mmapFixed 1 1 true] = false := by decide

theorem step_maps {v w : VM} (h : v.maps = w.maps) (c : Call) : (step v c).maps = (step w c).maps := by
  cases c <;> simp only [step, apply_ite VM.maps, h]

theorem step_fdOpen {v w : VM} (h : v.fdOpen = w.fdOpen) (c : Call) :
    (step v c).fdOpen = (step w c).fdOpen := by
  cases c <;> simp only [step, apply_ite VM.fdOpen, h]

/-- Mappings and the descriptor evolve independently of the bookkeeping fields. -/
theorem run_indep (s : List Call) (v w : VM) (hm : v.maps = w.maps) (hf : v.fdOpen = w.fdOpen) :
    (run v s).maps = (run w s).maps ∧ (run v s).fdOpen = (run w s).fdOpen := by
  induction s generalizing v w with
  | nil => exact ⟨hm, hf⟩
  | cons c rest ih =>
    exact ih _ _ (step_maps hm c) (step_fdOpen hf c)

/-- Call sequences that each leave nothing behind can be chained: what is mapped and whether the
descriptor is open after a sequence depends on nothing else (`run_indep`). -/
theorem run_flatten_clean (seqs : List (List Call))
    (h : ∀ s ∈ seqs, (run VM.init s).maps = [] ∧ (run VM.init s).fdOpen = false) (v : VM)
    (h1 : v.maps = []) (h2 : v.fdOpen = false) :
    (run v seqs.flatten).maps = [] ∧ (run v seqs.flatten).fdOpen = false := by
  induction seqs generalizing v with
  | nil => exact ⟨h1, h2⟩
  | cons s rest ih =>
    simp only [List.flatten_cons, run, List.foldl_append]
    have hi := run_indep s v VM.init h1 h2
    have hz := h s (by simp)
    exact ih (fun x hx => h x (by simp [hx])) _ (hi.1.trans hz.1) (hi.2.trans hz.2)

/-- Any number of create/drop cycles (of any of the scenarios, in any order)
returns to the initial address space. -/
theorem c18_churn (seqs : List (List Call))
    (h : ∀ s ∈ seqs, s = Gen.vmSuccess ∨ s = Gen.vmSecondFails ∨ s = Gen.vmFirstFails ∨ s = Gen.vmElemSize) :
    (run VM.init seqs.flatten).maps = [] ∧ (run VM.init seqs.flatten).fdOpen = false := by
  refine run_flatten_clean seqs (fun s hs => ?_) _ rfl rfl
  rcases h s hs with rfl | rfl | rfl | rfl
  · exact c18_no_leak_success
  · exact c18_no_leak_second_fails.2
  · exact c18_no_leak_first_fails.2
  · decide

/-- The admission test of `Buffer::new` (shared with C01): sizes that are not a
page multiple or not a multiple of the sample size are refused. -/
theorem c18_setup_refused (page ms size : Nat) (h : size % ms ≠ 0 ∨ size % page ≠ 0) :
    Ring.newCap page ms size = none := by
  rcases h with h | h <;> simp [Ring.newCap, h]

end RR.Props.C18
