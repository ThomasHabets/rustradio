import RR.Gen.ConcStatus
import RR.Proof.Conc
import RR.Gen.Conc

/-!
# C03 — one producer thread and one consumer thread share a stream safely

Model: `RR.Conc` — the ring of C01 plus each side's live window snapshot; the
mutex critical sections are atomic steps, cell accesses through windows are
separate steps; a schedule is an arbitrary list of steps (no bound, no
fairness). Ghost state: the committed history and the consumed count.

Partial w.r.t. the hardware/compiler memory model: steps are sequentially
consistent; that `Mutex` release/acquire publishes the producer's cell writes
before the commit is visible is trusted.
-/
namespace RR.Props.C03
open RR RR.Conc

/-- The invariant holds after every schedule of producer/consumer steps. -/
theorem c03_invariant (cap : Nat) (hcap : 0 < cap) (sched : List Step) :
    Inv cap (run (init cap) sched) := inv_run (inv_init hcap) sched

/-- Memory exposed by a live write window is never simultaneously exposed by a
live read window: in every reachable state the two windows' cells are disjoint. -/
theorem c03_windows_disjoint (cap : Nat) (hcap : 0 < cap) (sched : List Step)
    (w r : Win) (hw : (run (init cap) sched).pw = some w) (hr : (run (init cap) sched).pr = some r)
    (i j : Nat) (hi : i < w.len) (hj : j < r.len) :
    cellOf (run (init cap) sched) w i ≠ cellOf (run (init cap) sched) r j := by
  have h := c03_invariant cap hcap sched
  generalize run (init cap) sched = s at *
  obtain ⟨rs, rl⟩ := h.pr_ok r hr
  rw [cellOf.eq_1 s r, rs]
  exact h.cell_ne hw hi (by omega)

/-- Every value the consumer loads through its read window, at any moment and
under any interleaving, is the element of the producer's committed sequence at
position `consumed + j`: nothing torn, stale, duplicated or skipped. -/
theorem c03_reader_sees_committed (cap : Nat) (hcap : 0 < cap) (sched : List Step)
    (r : Win) (hr : (run (init cap) sched).pr = some r) (j : Nat) (hj : j < r.len) :
    (step (run (init cap) sched) (.get j)).2 =
      .value ((run (init cap) sched).hist.getD ((run (init cap) sched).consumed + j) 0) := by
  have h := c03_invariant cap hcap sched
  obtain ⟨rs, rl⟩ := h.pr_ok r hr
  simp only [step, hr, hj, if_true, cellOf, rs]
  rw [h.mem_hist j (by omega)]

/-- What has been consumed plus what is readable is exactly what was committed
(the consumed history is a prefix of the committed history). -/
theorem c03_consumed_prefix (cap : Nat) (hcap : 0 < cap) (sched : List Step) :
    (run (init cap) sched).hist.length =
      (run (init cap) sched).consumed + (run (init cap) sched).ring.used :=
  (c03_invariant cap hcap sched).hist_len

/-- Free-space queries and waits see consistent counters at their linearisation point. -/
theorem c03_bookkeeping_atomic (cap : Nat) (hcap : 0 < cap) (sched : List Step) :
    ∃ u f, (step (run (init cap) sched) .peek).2 = .counts u f ∧ u + f = cap ∧
      (step (run (init cap) sched) .peek).1.ring.used = u := by
  have h := c03_invariant cap hcap sched
  refine ⟨_, _, rfl, ?_, rfl⟩
  have := h.sim.used_le; have := h.cap_eq
  unfold Ring.free; omega

/-- The handle-count ceiling (`refcount > 3` is refused): a thread that follows
the protocol (no live window of its own when it asks for one) always sees at
most 3, so the refusal can never turn a correct run into an error … -/
theorem c03_ceiling_never_fires (s : State) :
    (s.pw = none → refcount s ≤ 3) ∧ (s.pr = none → refcount s ≤ 3) := by
  unfold refcount
  constructor <;> intro h <;> simp [h] <;> split <;> omega

/-- … and it does fire for a third window while both sides hold one. -/
theorem c03_ceiling_fires (s : State) (w r : Win) (hw : s.pw = some w) (hr : s.pr = some r) :
    refcount s > 3 := by simp [refcount, hw, hr]

/-! Non-vacuity: a schedule in which both windows are live at once on a wrapped ring. -/
def demo : List Step :=
  [.acqW, .put 0 5, .put 1 6, .put 2 7, .commit 3, .acqR, .consume 3,
   .acqW, .put 0 8, .put 1 9, .commit 2, .acqR, .acqW, .put 0 10, .get 0, .get 1, .peek]

example : (run (init 4) demo).pw = some ⟨1, 2⟩ ∧ (run (init 4) demo).pr = some ⟨3, 2⟩ := by decide
example : (step (run (init 4) demo) (.get 1)).2 = .value 9 := by decide

/-- The model's atomic steps are what the source does: each of `consume`, `produce`,
`read_buf`, `write_buf` takes the state lock exactly once and keeps it until after its last
state update (shape regenerated from src/circular_buffer.rs on every run). A split
critical section (snapshot, unlock, relock, write back) breaks this obligation. -/
theorem c03_sections_as_modelled : Gen.lockShape = [(1, 0), (1, 0), (1, 0), (1, 0)] := by decide

end RR.Props.C03
