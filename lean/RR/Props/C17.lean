import RR.Gen.FileSinkStatus
import RR.Proof.FileSink

/-!
# C17 — file sink: documented open modes, and consumed means on disk

Model: `RR.FileSink` — `OpenOptions` semantics over an abstract file-system
entry, and `work()` as an event list over a buffered writer. The open flags of
every mode of both sinks and the order of write / flush / consume in each
`work()` are `RR.Gen.*`, regenerated from `src/file_sink.rs` on every run; the
theorems are about those generated definitions.

Partial: "a completed `write(2)` survives the death of the process" (kernel
page cache) is assumed; power loss is not covered.
-/
namespace RR.Props.C17
open RR RR.FileSink

/-- Create: fails if and only if something exists at the path; a new file starts empty. -/
theorem c17_create (e : Entry) :
    (openSem Gen.fileSinkCreate e = .ok ([], false) ↔ e = .absent) ∧
    (openSem Gen.ncFileSinkCreate e = .ok ([], false) ↔ e = .absent) ∧
    (e ≠ .absent → (openSem Gen.fileSinkCreate e).isOk = false ∧ (openSem Gen.ncFileSinkCreate e).isOk = false) := by
  cases e <;> simp [openSem, Gen.fileSinkCreate, Gen.ncFileSinkCreate, Except.isOk, Except.toBool]

/-- Overwrite: on a writable file or an absent path the file holds exactly the new data. -/
theorem c17_overwrite (old data : List Nat) :
    (openSem Gen.fileSinkOverwrite (.file old)).map (afterWrite · data) = .ok data ∧
    (openSem Gen.fileSinkOverwrite .absent).map (afterWrite · data) = .ok data ∧
    (openSem Gen.ncFileSinkOverwrite (.file old)).map (afterWrite · data) = .ok data ∧
    (openSem Gen.ncFileSinkOverwrite .absent).map (afterWrite · data) = .ok data := by
  simp [openSem, Gen.fileSinkOverwrite, Gen.ncFileSinkOverwrite, afterWrite, Except.map]

/-- Append: existing content is kept and extended; an absent file is created. -/
theorem c17_append (old data : List Nat) :
    (openSem Gen.fileSinkAppend (.file old)).map (afterWrite · data) = .ok (old ++ data) ∧
    (openSem Gen.fileSinkAppend .absent).map (afterWrite · data) = .ok data ∧
    (openSem Gen.ncFileSinkAppend (.file old)).map (afterWrite · data) = .ok (old ++ data) ∧
    (openSem Gen.ncFileSinkAppend .absent).map (afterWrite · data) = .ok data := by
  simp [openSem, Gen.fileSinkAppend, Gen.ncFileSinkAppend, afterWrite, Except.map]

/-- Directories and unwritable files are errors in every mode. -/
theorem c17_bad_targets (c : List Nat) :
    ∀ f ∈ [Gen.fileSinkCreate, Gen.fileSinkOverwrite, Gen.fileSinkAppend,
           Gen.ncFileSinkCreate, Gen.ncFileSinkOverwrite, Gen.ncFileSinkAppend],
      (openSem f .dir).isOk = false ∧ (openSem f (.unwritable c)).isOk = false :=
  fun f _ => openSem_bad f c

/-- Durability, stream sink: for every sequence of `work()` calls (any window
sizes, any amount the buffered writer passes on by itself), at EVERY event
boundary — every point at which the process can be killed — the file is a
prefix of the serialised stream and holds at least everything consumed. -/
theorem c17_durable_stream_sink (T : List Nat) (calls : List (Nat × Nat)) (k spill : Nat) :
    let s := runCalls Gen.fileSinkWork ⟨[], [], 0, T⟩ calls
    ∀ st ∈ workStates Gen.fileSinkWork (min k s.todo.length) spill s,
      st.file <+: T ∧ st.consumed ≤ st.file.length := by
  intro s
  obtain ⟨F, D, (rfl : F ++ D = T), (e : s = _)⟩ := runCalls_eq (.inl rfl) calls [] T
  rw [e]
  exact fileSink_states F D _ spill (Nat.min_le_right _ _)

/-- Durability, packet sink: when a `work()` call returns, every packet it took
from the stream is in the file; and at every moment the file is a prefix of the
serialised packet stream. -/
theorem c17_durable_packet_sink (T : List Nat) (calls : List (Nat × Nat)) :
    let s := runCalls Gen.ncFileSinkWork ⟨[], [], 0, T⟩ calls
    s.file <+: T ∧ s.consumed = s.file.length ∧ s.buffered = [] := by
  intro s
  obtain ⟨F, D, h, (e : s = _)⟩ := runCalls_eq (.inr rfl) calls [] T
  rw [e]
  exact ⟨⟨D, h⟩, rfl, rfl⟩

/-- A failing write or flush (full device, I/O error) in the stream sink: `work()` returns an error
and nothing is consumed, for every window — so "consumed" keeps meaning "on disk". The generated
`…WorkChecked` lists record whether each I/O result is propagated with `?`; they describe the same
call as the generated event order. -/
theorem c17_failed_io_consumes_nothing (k spill : Nat) (s : St) :
    Gen.fileSinkWorkChecked.map (·.1) = Gen.fileSinkWork ∧
    Gen.ncFileSinkWorkChecked.map (·.1) = Gen.ncFileSinkWork ∧
    (∀ bad ∈ [Ev.write, Ev.flush],
      (callWithFailure bad k spill Gen.fileSinkWorkChecked s).2 = true ∧
      (callWithFailure bad k spill Gen.fileSinkWorkChecked s).1.consumed = s.consumed) ∧
    (∀ bad ∈ [Ev.write, Ev.flush], (callWithFailure bad k spill Gen.ncFileSinkWorkChecked s).2 = true) := by
  refine ⟨rfl, rfl, ?_, ?_⟩
  · simp [Gen.fileSinkWorkChecked, callWithFailure, ev]
  · simp [Gen.ncFileSinkWorkChecked, callWithFailure]

/-- Why the `?` matters: with the flush result ignored, a failed flush is followed by the consume. -/
theorem c17_unchecked_flush_is_unsafe :
    let r := callWithFailure .flush 2 0 [(.write, true), (.flush, false), (.consume, true)] ⟨[], [], 0, [1, 2]⟩
    r.2 = false ∧ r.1.consumed = 2 ∧ r.1.file = [] := by
  decide

/-- Why the order matters: consuming before flushing acknowledges bytes that are not on disk. -/
theorem c17_consume_first_is_unsafe :
    ∃ st ∈ workStates [.write, .consume, .flush] 2 0 ⟨[], [], 0, [1, 2]⟩, ¬ st.consumed ≤ st.file.length :=
  ⟨_, mem_workStates.2 ⟨2, by decide, rfl⟩, by decide⟩

/-! Non-vacuity: two calls, the first with a byte passed on by the writer itself, the second with a window
larger than what is left. -/
example : (runCalls Gen.fileSinkWork ⟨[], [], 0, [1, 2, 3, 4, 5]⟩ [(2, 1), (9, 0)]).file = [1, 2, 3, 4, 5] := by decide

end RR.Props.C17
