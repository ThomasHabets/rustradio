import RR.Proof.DspFir
import RR.Proof.DspAlg
import RR.Proof.DspOla
import RR.Proof.DspIir
import RR.Proof.DspDesign
import RR.Proof.DspHilbert
import RR.Proof.SigIdeal
import RR.Proof.Wrap

/-!
# C11 — DSP kernels agree with their mathematical definitions and with each other

The model (`RR/Model/Dsp.lean`) mirrors `Fir`, `FirFilter::work`, the AVX and
portable-simd reductions, `Hilbert::work`, `IirFilter`, `SinglePoleIir`,
`FastFM`, `calc_fft_size` and the overlap-add loop of `FftFilter` over an
abstract arithmetic. It is tied to the code bit for bit in `Float32`
(`rrh blocks --set dsp`, `rrh dsp`, in the default, the AVX and the
portable-simd build). The theorems:

* any arithmetic (floats included): `FirFilter` output `m` is `Fir::filter` at
  offset `m·deci`, for EVERY chunking (`c11_fir_any_chunking`);
* any commutative ring (ℤ, ℚ, ℝ, ℂ … — "exact arithmetic"): that value is the
  sliding dot product `Σ_k taps[k]·x[m·deci+ntaps-1-k]`, i.e. the linear
  convolution at `m·deci + ntaps - 1` (`c11_fir_sliding`, `c11_fir_eq_conv`);
  the SIMD reductions equal the scalar one (`c11_kernels_agree`); overlap-add
  around a cyclic convolution of size `calc_fft_size(ntaps)` is the linear
  convolution with zero pre-history (`c11_ola_eq_conv`), hence FFT output =
  FIR output delayed by `ntaps-1` (`c11_fft_eq_fir_delayed`);
* IIR recurrences (`c11_iir_recurrence`, `c11_single_pole`), generated
  low-pass taps symmetric with unit DC gain for the three window families
  (`c11_lowpass_*`), Hilbert taps antisymmetric, FM demodulator identities.

PARTIAL: the float results differ from the exact ones by rounding; the bound is
checked by the harness against an f64 reference (not a theorem). The engine
(`rustfft`) is assumed to compute the cyclic convolution (checked to 0.02 on
integer data by `!dsp engine` lines). `FftFilter`'s batching loop is proved equal to
`olaRun` for every schedule (`c11_fft_block`).
-/
namespace RR.Props.C11
open RR RR.Blk RR.Dsp Finset

/-- **FIR block, every chunking, any arithmetic.** However the input is split
into read windows and however much output space is free at each call, after
`q'·deci` consumed samples the block has delivered exactly `q'` outputs, output
`m` being `Fir::filter` applied to the `ntaps` samples from `m·deci`
(decimation phase kept). -/
theorem c11_fir_any_chunking {α : Type} (o : Ops α) (cd : Codec α) (taps : List α) (deci : Nat) (X : List Nat)
    (hd : 0 < deci) (ht : 0 < taps.length) (sched : List (Nat × Nat)) :
    let r := drive1 (firBlock o cd taps deci) X () 0 [] sched
    ∃ q', r.2.1 = q' * deci ∧ r.2.2 = firSpec o cd (firNew taps) deci X q' :=
  fir_drive o cd taps deci hd ht X sched () 0 [] (fir_init o cd (firNew taps) deci X)

/-- `work()` never trips one of its assertions, never over-consumes or over-commits. -/
theorem c11_fir_step_safe {α : Type} (o : Ops α) (cd : Codec α) (rt : List α) (deci : Nat) (X : List Nat)
    (q a f : Nat) (hd : 0 < deci) (ht : 0 < rt.length) :
    let w := (X.drop (q * deci)).take a
    let r := firWork o cd rt deci () ⟨[⟨w, [], true⟩], [⟨f, true⟩]⟩
    r.2.verdict ≠ .panic ∧ (r.2.produced.getD 0 ⟨[], []⟩).samples.length ≤ f := by
  intro w r
  simp only [r, firWork_one o cd rt deci hd ht]
  split
  · simp
  split
  · simp
  · simp [filterN]

variable {R : Type} [CommRing R]

/-- **Sliding dot product**: in exact arithmetic the filter at offset `off` is
`Σ_k taps[k]·x[off + ntaps - 1 - k]`. -/
theorem c11_fir_sliding (taps X : List R) (off : ℕ) (h : off + taps.length ≤ X.length) :
    dot (ringOps R) (firNew taps) (X.drop off) =
      ∑ k ∈ range taps.length, taps.getD k 0 * X.getD (off + taps.length - 1 - k) 0 := by
  rw [fir_eq_conv]
  refine sum_range_congr fun k hk => ?_
  rw [if_pos (by omega)]
  congr 2
  omega

/-- … which is the linear convolution at index `off + ntaps - 1`. -/
theorem c11_fir_eq_conv (taps X : List R) (off : ℕ) (h : off + taps.length ≤ X.length) (ht : 0 < taps.length) :
    dot (ringOps R) (firNew taps) (X.drop off) = convAt taps X (off + (taps.length - 1)) :=
  fir_eq_conv taps X off

/-- **Every SIMD-specialised kernel computes the same sum** as the scalar fold
(exact arithmetic; in floats they differ by the order of the additions). -/
theorem c11_kernels_agree (taps input : List R) (h : taps.length = input.length) :
    dotAvx (ringOps R) taps input = firFilter (ringOps R) taps input ∧
    dotSimd (ringOps R) taps input = firFilter (ringOps R) taps input := by
  unfold firFilter
  rw [if_neg (by omega)]
  exact ⟨dotAvx_eq_dot taps input h, dotSimd_eq_dot taps input (by omega)⟩

/-- The AVX kernel (unlike the scalar one) insists on equal lengths. -/
theorem c11_avx_length_assert (taps input : List R) (h : taps.length ≠ input.length) :
    dotAvx (ringOps R) taps input = none := by
  unfold dotAvx; rw [if_pos h]

/-- `calc_fft_size`: a power of two, at least twice the tap count (so a batch
of `fft_size - ntaps` samples never wraps). -/
theorem c11_fft_size (L : ℕ) : 2 * L ≤ calcFftSize L ∧ ∃ e, calcFftSize L = 2 ^ e :=
  ⟨calcFftSize_ge L, calcFftSize_pow2 L⟩

/-- **Overlap-add = linear convolution with zero pre-history**: `B` batches
from the start of the stream produce `y[n] = Σ_k h[k]·x[n-k]` for
`n < B·(fft_size - ntaps)`. -/
theorem c11_ola_eq_conv (taps X : List R) (ht : 0 < taps.length) (B : ℕ)
    (hX : B * (calcFftSize taps.length - taps.length) ≤ X.length) :
    olaRun (ringOps R) taps (calcFftSize taps.length - taps.length) X B 0 (List.replicate taps.length 0) =
      (List.range (B * (calcFftSize taps.length - taps.length))).map (fun n => convAt taps X n) :=
  ola_eq_conv taps X B

/-- **FFT output = FIR output delayed by `ntaps-1`**: FIR output `m` (deci 1)
equals FFT-filter output `m + ntaps - 1`. -/
theorem c11_fft_eq_fir_delayed (taps X : List R) (ht : 0 < taps.length) (B m : ℕ)
    (hX : B * (calcFftSize taps.length - taps.length) ≤ X.length)
    (hm : m + (taps.length - 1) < B * (calcFftSize taps.length - taps.length)) (hmx : m + taps.length ≤ X.length) :
    (olaRun (ringOps R) taps (calcFftSize taps.length - taps.length) X B 0 (List.replicate taps.length 0)).getD
        (m + (taps.length - 1)) 0 =
      dot (ringOps R) (firNew taps) (X.drop m) := by
  rw [ola_eq_conv taps X B, getD_map_range _ _ hm, fir_eq_conv]

/-- **The FFT filter block, every chunking, exact arithmetic.** However the input is split
into read windows and however much output space each call finds, the block (buffering a partial
batch across calls, carrying the overlap tail) has emitted exactly the first `B·S` samples of the
linear convolution with zero pre-history, `S = fft_size - ntaps`, and holds the `< S` samples
consumed beyond them in its buffer. -/
theorem c11_fft_block (cd : Codec R) (taps : List R) (ht : 0 < taps.length) (Xn : List Nat)
    (sched : List (Nat × Nat)) :
    let S := calcFftSize taps.length - taps.length
    let r := drive1 (fftBlock (ringOps R) cd taps) Xn ⟨[], [], List.replicate taps.length 0⟩ 0 [] sched
    ∃ B, r.2.1 = B * S + r.1.buf.length ∧ r.1.buf.length < S ∧
      r.2.2 = ((List.range (B * S)).map fun n => convAt taps (Xn.map cd.dec) n).map cd.enc :=
  fftInv_conv cd taps Xn _ _ _ (fft_drive (ringOps R) cd taps Xn sched _ 0 [] (fft_init (ringOps R) cd taps Xn))

/-- **Hilbert transformer block, every schedule, any arithmetic and kernel.** With `Z` = `ntaps` zeros followed
by the input: however the input is cut into read windows and however much output space each call finds, after `c`
consumed samples the block has emitted exactly, for every `j < c`, the pair (`Z[j + ntaps/2]`, kernel(taps,
`Z[j .. j+ntaps]`)) — the input delayed by half the filter next to the filter output (`kernel` = the scalar, AVX
or portable-SIMD dot product, proved equal in `c11_kernels_agree`) — and every input tag has been handed on
exactly once, at the same index. -/
theorem c11_hilbert_block {α : Type} (o : Ops α) (cd : Codec α) (pair : α → α → Nat) (k : List α → List α → α)
    (taps : List α) (hnt : 0 < taps.length) (X : List Nat) (T : List Tag) (sched : List (Nat × Nat)) :
    let B := hilbertBlock o cd pair (fun p q => some (k p q)) taps
    let r := driveT B X T B.init 0 [] [] sched
    r.2.1 ≤ X.length ∧ r.2.2.1 = (List.range r.2.1).map (hilOut o cd pair k (firNew taps) X) ∧
    r.2.2.2.Perm (rng T 0 r.2.1) := by
  intro B r
  obtain ⟨⟨_, hout, hc⟩, htags⟩ :=
    hilbert_driveT o cd pair k taps X T sched B.init 0 [] [] (hilbert_init o cd pair k taps X) (perm_rng_zero T 0 _)
  exact ⟨hc, hout, map_mp_id (rng T 0 r.2.1) ▸ htags⟩

/-- **IIR recurrence**: `y[n] = t0·x[n] + Σ_{i=1}^{min(n,L-1)} t_i·y[n-i]`, for every input. -/
theorem c11_iir_recurrence (taps xs : List R) (ht : taps ≠ []) :
    iirRun (ringOps R) taps [] xs = some (iirRef taps [] xs) :=
  by simpa using iir_recurrence taps ht xs []

/-- **Clamped IIR** (`filter_clamped`, used by the symbol-clock loop filter): the
returned value is clamped and is the very value fed back into the recurrence. -/
theorem c11_iir_clamped {α : Type} (o : Ops α) (clamp : α → α) (taps buf : List α) (x : α) (buf' : List α) (y : α)
    (h : iirClampStep o clamp taps buf x = some (buf', y)) (h2 : 2 ≤ taps.length) :
    buf'.getLast? = some y ∧ ∃ z, y = clamp z := by
  unfold iirClampStep at h
  split at h
  · cases h
  · cases h
    refine ⟨?_, _, rfl⟩
    split
    · next hl => rw [List.getLast?_drop, if_neg (by omega), List.getLast?_concat]
    · exact List.getLast?_concat ..

/-- **Single-pole IIR**: `y = α·x + (1-α)·y_prev`, and its closed form. -/
theorem c11_single_pole (a y0 : R) (xs : List R) :
    (∀ prev x, singlePole (ringOps R) a (1 - a) prev x = a * x + (1 - a) * prev) ∧
    xs.foldl (fun prev x => singlePole (ringOps R) a (1 - a) prev x) y0 =
      (1 - a) ^ xs.length * y0 + ∑ k ∈ range xs.length, a * (1 - a) ^ (xs.length - 1 - k) * xs.getD k 0 :=
  ⟨single_pole_recurrence a, single_pole_closed a y0 xs⟩

open Design in
/-- **Generated low-pass taps are symmetric with unit DC gain** — Hamming window
(`ntaps = 2m+1`, any `a0`, any cutoff). -/
theorem c11_lowpass_hamming (a0 fwt0 : ℝ) (m : ℕ) (hm : 0 < m)
    (hf : fmax (sincCore fwt0) (hammingWin a0 m) m ≠ 0) :
    (∀ i, i ≤ 2 * m → lowPass (sincCore fwt0) (hammingWin a0 m) m (2 * m - i) =
      lowPass (sincCore fwt0) (hammingWin a0 m) m i) ∧
    ∑ i ∈ range (2 * m + 1), lowPass (sincCore fwt0) (hammingWin a0 m) m i = 1 :=
  lowPass_symm_dc _ _ m (sincCore_even fwt0) (hamming_symm a0 m hm) hf

open Design in
/-- … Blackman and Blackman-Harris windows (symmetric since the `fix:` commit). -/
theorem c11_lowpass_blackman (a0 a1 a2 a3 fwt0 : ℝ) (m : ℕ) (hm : 0 < m)
    (hf : fmax (sincCore fwt0) (blackmanWin a0 a1 a2 m) m ≠ 0)
    (hf' : fmax (sincCore fwt0) (blackmanHarrisWin a0 a1 a2 a3 m) m ≠ 0) :
    ((∀ i, i ≤ 2 * m → lowPass (sincCore fwt0) (blackmanWin a0 a1 a2 m) m (2 * m - i) =
      lowPass (sincCore fwt0) (blackmanWin a0 a1 a2 m) m i) ∧
     ∑ i ∈ range (2 * m + 1), lowPass (sincCore fwt0) (blackmanWin a0 a1 a2 m) m i = 1) ∧
    ((∀ i, i ≤ 2 * m → lowPass (sincCore fwt0) (blackmanHarrisWin a0 a1 a2 a3 m) m (2 * m - i) =
      lowPass (sincCore fwt0) (blackmanHarrisWin a0 a1 a2 a3 m) m i) ∧
     ∑ i ∈ range (2 * m + 1), lowPass (sincCore fwt0) (blackmanHarrisWin a0 a1 a2 a3 m) m i = 1) :=
  ⟨lowPass_symm_dc _ _ m (sincCore_even fwt0) (blackman_symm a0 a1 a2 m hm) hf,
   lowPass_symm_dc _ _ m (sincCore_even fwt0) (blackmanHarris_symm a0 a1 a2 a3 m hm) hf'⟩

open Design in
/-- The window the code used before the repair (periodic: division by `ntaps`)
does not satisfy the symmetry hypothesis — witness: 3 taps. -/
theorem c11_periodic_window_not_symmetric :
    ¬ ((0.42 : ℝ) - 0.5 * Real.cos (2 * Real.pi * 0 / 3) + 0.08 * Real.cos (4 * Real.pi * 0 / 3) =
       0.42 - 0.5 * Real.cos (2 * Real.pi * 2 / 3) + 0.08 * Real.cos (4 * Real.pi * 2 / 3)) := by
  have c1 : Real.cos (2 * Real.pi * 2 / 3) = -(1 / 2) := by
    have : 2 * Real.pi * 2 / 3 = Real.pi / 3 + Real.pi := by ring
    rw [this, Real.cos_add_pi, Real.cos_pi_div_three]
  have c2 : Real.cos (4 * Real.pi * 2 / 3) = -(1 / 2) := by
    have : 4 * Real.pi * 2 / 3 = (Real.pi - Real.pi / 3) + 2 * Real.pi := by ring
    rw [this, Real.cos_add_two_pi, Real.cos_pi_sub, Real.cos_pi_div_three]
  simp only [mul_zero, zero_div, Real.cos_zero, c1, c2]
  norm_num

open Design in
/-- **Hilbert taps** are antisymmetric about a zero centre tap, even offsets are zero. -/
theorem c11_hilbert_taps {K : Type} [Field K] (win : ℕ → K) (mid : ℕ) (g : K)
    (hwin : ∀ i, i ≤ mid → win (mid + i) = win (mid - i)) (i : ℕ) (hi : i ≤ mid) :
    g * hilbertRaw win mid (mid + i) = -(g * hilbertRaw win mid (mid - i)) ∧
    (i % 2 = 0 → hilbertRaw win mid (mid + i) = 0 ∧ hilbertRaw win mid (mid - i) = 0) := by
  rw [hilbertRaw_above, hilbertRaw_below win mid i hi, hwin i hi]
  exact ⟨by split <;> ring, fun h => ⟨if_neg (by omega), if_neg (by omega)⟩⟩

open Design in
/-- **FM demodulators**: quadrature demod = gain × phase advance; FastFM = `Im((s-q2)·conj q1)`. -/
theorem c11_fm_identities (gain a b θ φ : ℝ) (ha : 0 < a) (hb : 0 < b)
    (h : θ - φ ∈ Set.Ioc (-Real.pi) Real.pi) (s q1 q2 : ℂ) :
    gain * Complex.arg (((a : ℂ) * Complex.exp (θ * Complex.I)) *
      (starRingEnd ℂ) ((b : ℂ) * Complex.exp (φ * Complex.I))) = gain * (θ - φ) ∧
    (s.im - q2.im) * q1.re - (s.re - q2.re) * q1.im = ((s - q2) * (starRingEnd ℂ) q1).im := by
  refine ⟨?_, ?_⟩
  · -- `a·e^{iθ} · conj (b·e^{iφ}) = ab · e^{i(θ-φ)}`
    rw [map_mul, Complex.conj_ofReal, ← Complex.exp_conj, map_mul, Complex.conj_ofReal, Complex.conj_I,
      mul_mul_mul_comm, ← Complex.exp_add, ← Complex.ofReal_mul,
      show θ * Complex.I + φ * -Complex.I = ((θ - φ : ℝ) : ℂ) * Complex.I by push_cast; ring,
      Complex.exp_mul_I, Complex.arg_mul_cos_add_sin_mul_I (mul_pos ha hb) h]
  · simp [Complex.mul_im]
    ring

/-- SignalSourceFloat / SignalSourceComplex — the generator whose `f64` instance is compared bit for bit
with the real blocks — over exact reals: for EVERY schedule of free-space values, and whatever whole number
of turns the `% 2π` removes at each step, the samples emitted are the pure tone
`out (sin((i+1)·rad)) (−cos((i+1)·rad))`, i = 0, 1, …, cut at the total room offered. -/
theorem c11_signal_source_ideal (turns : ℝ → ℤ) (rad : ℝ) (out : ℝ → ℝ → Nat) (fs : List Nat) :
    (genDrive (sigGen (realSigOps turns) rad out) fs (sigGen (realSigOps turns) rad out).init).2 =
      (List.range fs.sum).map fun i => out (Real.sin ((i + 1 : ℕ) * rad)) (-Real.cos ((i + 1 : ℕ) * rad)) := by
  rw [gen_drive, List.range_eq_range']
  exact sig_from turns rad out _ 0 0 0 (by simp)

/-- **FftFilterFloat, every schedule, exact arithmetic.** The float filter is the complex one between two
inner streams (any capacity) and two sample conversions; however the outer input is cut into read windows and
however much output space each call finds, what has been delivered is the conversion of a prefix of the
linear convolution of the converted input — the inner streams lose, duplicate and reorder nothing. -/
theorem c11_fft_float_block (cd : Codec R) (taps : List R) (ht : 0 < taps.length) (cap : Nat)
    (toIn toOut : Nat → Nat) (Xn : List Nat) (sched : List (Nat × Nat)) :
    let S := calcFftSize taps.length - taps.length
    let W := wrapBlock (fftBlock (ringOps R) cd taps) cap toIn toOut (fftNeed taps)
    let r := drive1 W Xn W.init 0 [] sched
    r.2.1 ≤ Xn.length ∧
    ∃ B, B * S ≤ r.2.1 ∧
      r.2.2 <+: (((List.range (B * S)).map fun n => convAt taps ((Xn.map toIn).map cd.dec) n).map cd.enc).map toOut := by
  intro S W r
  obtain ⟨hCX, c, out, ⟨hinv, _⟩, hcC, hD⟩ :=
    (wrap_drive _ cap toIn toOut Xn _ (fft_innerOk (ringOps R) cd taps toIn Xn) (fftNeed taps) sched _ 0 []
      (wrap_init _ toIn toOut Xn _ ⟨fft_init (ringOps R) cd taps (Xn.map toIn), rfl⟩)).delivered
  obtain ⟨B, e1, _, hout⟩ := fftInv_conv cd taps (Xn.map toIn) _ c out hinv
  exact ⟨hCX, B, Nat.le_trans (by rw [e1]; exact Nat.le_add_right _ _) hcC, hout ▸ hD⟩

/-! ### the premises are satisfiable; the definitions compute what they should -/

/-- 3 taps `[1,2,3]`, decimation 2 on `0..9`: outputs at offsets 0, 2, 4, 6. -/
example : filterN (ringOps ℤ) (firNew [1, 2, 3]) [0, 1, 2, 3, 4, 5, 6, 7, 8, 9] 2 4 = [4, 16, 28, 40] := by decide
example : convAt ([1, 2, 3] : List ℤ) [0, 1, 2, 3, 4, 5, 6, 7, 8, 9] 2 = 4 := by decide
example : calcFftSize 1 = 2 ∧ calcFftSize 3 = 8 ∧ calcFftSize 4 = 8 ∧ calcFftSize 5 = 16 ∧ calcFftSize 200 = 512 := by
  decide
/-- overlap-add of two batches (3 taps, fft size 8, batch 5) against the convolution -/
example : olaRun (ringOps ℤ) [1, 2, 3] 5 [1, 0, 0, 0, 0, 0, 1, 0, 0, 0] 2 0 [0, 0, 0] =
    [1, 2, 3, 0, 0, 0, 1, 2, 3, 0] := by decide
example : iirRun (ringOps ℤ) [1, 1, 1] [] [1, 0, 0, 0, 0] = some [1, 1, 2, 3, 5] := by decide
example : dotAvx (ringOps ℤ) [1, 2, 3, 4, 5, 6, 7, 8, 9, 10] [1, 1, 1, 1, 1, 1, 1, 1, 2, 2] = some 74 := by decide

end RR.Props.C11
