import RR.Proof.Sync
import RR.Proof.Hand
import RR.Proof.Conv
import RR.Proof.ResamplerSpec
import Mathlib.Algebra.Group.Nat.Defs
import RR.Proof.V2S
import RR.Proof.FftStream
import RR.Proof.SinkSrc
import RR.Proof.DelayCtl

/-!
# C10 — exactly-specified blocks compute their documented function

Independent, documentation-level specifications and the theorems that the
mirrored `work()` functions compute them — with exact counts, for every
chunking (through C08's chunk-independence theorems). Proved here: all
sample-wise (stateless) sync blocks generically, NRZI, Skip, Delay,
RtlSdrDecode, RationalResampler (closed form of its reference output),
StreamToPdu, VecToStream, FFT-stream framing, ConstantSource, VectorSink and
NullSink, `Delay::set_delay`. Tied by correspondence only (model = code on
random and boundary inputs): Descrambler, access-code correlators, BurstTagger,
text formatter (see evidence).
-/
namespace RR.Props.C10
open RR RR.Blk

/-- Sample-wise blocks (`AddConst`, `MultiplyConst`, `XorConst`, `Xor`, `Add`,
`Tee`, `BinarySlicer`, `ComplexToMag2`, `FloatToComplex`, `Map`, …): output row
`p` is the function of the inputs at `p` — nothing lost, duplicated or
reordered — and each tag of the first input is forwarded once at its index. -/
theorem c10_samplewise (nin nout : Nat) (g : List Nat → Option (List Nat)) (h : List Nat → List Nat)
    (get : Nat → List Nat × List (List Tag)) (pos k : Nat)
    (hg : ∀ p, p < k → g (get (pos + p)).1 = some (h (get (pos + p)).1)) :
    syncLoopG (stateless nin nout g) get () pos k =
      some ((), (List.range k).map (fun p => h (get (pos + p)).1),
        (List.range k).flatMap fun p => ((get (pos + p)).2.headD []).map fun t => { t with pos := pos + p }) := by
  obtain ⟨⟨⟩, e⟩ := pureRun_eq_some (fun (_ : Unit) xs => (g xs).map fun ys => ((), ys)) (fun _ xs => xs.map h)
    (fun _ => rfl) ((List.range k).map fun p => (get (pos + p)).1)
    (fun _ x hx rest => by
      obtain ⟨p, hp, rfl⟩ := List.mem_map.mp hx
      exact ⟨(), _, by rw [hg p (List.mem_range.mp hp)]; rfl, rfl⟩) ()
  unfold stateless
  rw [syncLoopG_pureSync, List.range'_eq_map_range, List.map_map, List.flatMap_map]
  exact (congrArg (Option.map _) e).trans (by rw [List.map_map]; rfl)

/-- Instances: the documented functions. -/
theorem c10_xorconst (v : Nat) (xs : List Nat) :
    (xorConst v).f () xs [] = some ((), [xs.getD 0 0 ^^^ v], []) := rfl
theorem c10_xor (xs : List Nat) : xor2.f () xs [] = some ((), [xs.getD 0 0 ^^^ xs.getD 1 0], []) := rfl
theorem c10_tee (xs : List Nat) : tee.f () xs [] = some ((), [xs.getD 0 0, xs.getD 0 0], []) := rfl
theorem c10_addconst_int (b v x : Nat) (h : x + v < 2 ^ b) :
    (addConstInt b v).f () [x] [] = some ((), [x + v], []) := by
  simp [addConstInt, stateless, pureSync, addChecked, h]
theorem c10_slicer (x : Nat) :
    binarySlicer.f () [x] [] = some ((), [if f32 x > 0.0 then 1 else 0], []) := rfl

/-- NRZI-S decoder: `out[i] = 1 xor in[i] xor in[i-1]`, `in[-1] = 0`. -/
theorem c10_nrzi (get : Nat → List Nat × List (List Tag)) (k : Nat) :
    ∃ st ts, syncLoopG nrzi get (0 : Nat) 0 k =
      some (st, (nrziSpec 0 ((List.range k).map fun p => (get p).1.getD 0 0)).map ([·]), ts) := by
  obtain ⟨st, e⟩ := pureRun_eq_some (fun last xs => some (xs.getD 0 0, [1 ^^^ xs.getD 0 0 ^^^ last]))
    (fun last xs => (nrziSpec last (xs.map (·.getD 0 0))).map ([·])) (fun _ => rfl)
    ((List.range' 0 k).map fun p => (get p).1) (fun _ _ _ _ => ⟨_, _, rfl, rfl⟩) 0
  unfold nrzi
  rw [syncLoopG_pureSync, e, ← List.range_eq_range', List.map_map]
  exact ⟨_, _, rfl⟩

/-- NRZI composed as in the doc comment (Tee, Delay 1, Xor, XorConst 1) is the same function. -/
theorem c10_nrzi_xor_tee_delay (xs : List Nat) :
    nrziSpec 0 xs = (List.zipWith (fun a d => (d ^^^ a) ^^^ 1) xs (0 :: xs)) := by
  generalize 0 = prev
  fun_induction nrziSpec prev xs with
  | case1 => rfl
  | case2 prev a rest ih =>
    rw [List.zipWith_cons_cons, ← ih, Nat.xor_comm 1, Nat.xor_comm _ prev, Nat.xor_assoc]

/-- Skip: the input without its first `k` samples. -/
theorem c10_skip (k : Nat) (X : List Nat) (sched : List (Nat × Nat)) :
    (drive1 (skipBlock k) X k 0 [] sched).2.2 = (X.take (drive1 (skipBlock k) X k 0 [] sched).2.1).drop k :=
  (skip_drive k X sched k 0 [] (skip_init k X)).2.1

/-- Delay: `k` default samples, then the input. -/
theorem c10_delay (k : Nat) (X : List Nat) (sched : List (Nat × Nat)) :
    let r := drive1 (delayBlock k) X ⟨k, 0⟩ 0 [] sched
    ∃ z', z' ≤ k ∧ (0 < r.2.1 → z' = k) ∧ r.2.2 = List.replicate z' 0 ++ X.take r.2.1 :=
  (delay_drive k X sched _ 0 [] (delay_init k X)).out

/-- RTL-SDR byte decoder: bytes pairwise to `((b − 127)·0.008, (b' − 127)·0.008)`. -/
theorem c10_rtlsdr (X : List Nat) (sched : List (Nat × Nat)) :
    (drive1 rtlBlock X () 0 [] sched).2.2 = rtlSpec (X.take (drive1 rtlBlock X () 0 [] sched).2.1) :=
  (rtl_drive X sched () 0 [] (rtl_init X)).1

/-- Rational resampler, closed form of its reference output (which every chunking delivers,
`c08_resampler`): output sample `j` is input sample `k = ⌊j·D/I⌋` — stated without division as
`k·I ≤ j·D < (k+1)·I` — and `n` inputs give `E` outputs with `n·I ≤ E·D < n·I + D`, i.e.
`E = ⌈n·I/D⌉`: no sample lost, duplicated beyond its share, or reordered. -/
theorem c10_resampler (I D : Int) (hI : 0 < I) (hD : 0 < D) (X : List Nat) :
    (∀ j k : Nat, k < X.length → (k : Int) * I ≤ j * D → (j : Int) * D < (k + 1) * I →
      (resRef I D 0 X)[j]? = X[k]?) ∧
    (X.length : Int) * I ≤ (resRef I D 0 X).length * D ∧
    ((resRef I D 0 X).length : Int) * D < X.length * I + D := by
  obtain ⟨gi, g1, g2⟩ := resRef_spec I D hI hD X 0 (by omega) (by omega)
  exact ⟨fun j k hk h1 h2 => gi j k hk (by simpa using h1) (by simpa using h2), by simpa using g1,
    by simpa using g2⟩

/-- Stream-to-PDU: a per-sample automaton — feeding `a ++ b` is feeding `a`, then `b`
(chunking is immaterial), and no PDU ever holds more than `max_size` samples. -/
theorem c10_s2pdu (key maxSize tail : Nat) (tags : List Tag) (a b : List Nat) :
    s2pLoop key maxSize tail tags (a ++ b) 0 ⟨[], none⟩ [] =
      s2pLoop key maxSize tail tags b a.length (s2pLoop key maxSize tail tags a 0 ⟨[], none⟩ []).1
        (s2pLoop key maxSize tail tags a 0 ⟨[], none⟩ []).2 ∧
    ∀ p ∈ (s2pLoop key maxSize tail tags (a ++ b) 0 ⟨[], none⟩ []).2, p.length ≤ maxSize := by
  constructor
  · have := s2pLoop_append key maxSize tail tags a b 0 ⟨[], none⟩ []
    simpa using this
  · exact (s2pLoop_bound key maxSize tail tags (a ++ b) 0 ⟨[], none⟩ [] (by simp) (by simp)).2

/-- An end tag without a burst in progress emits nothing (the tail-only PDU defect, repaired). -/
example : (s2pLoop 100 10 2 [⟨1, 100, 0⟩] [5, 6, 7, 8, 9] 0 ⟨[], none⟩ []).2 = [] := by decide
/-- start at 1, end at 3, tail 1: samples 1, 2 and the one after the end-tagged sample -/
example : (s2pLoop 100 10 1 [⟨1, 100, 1⟩, ⟨3, 100, 0⟩] [5, 6, 7, 8, 9, 10] 0 ⟨[], none⟩ []).2 = [[6, 7, 9]] := by decide

/-! Non-vacuity. -/
example : nrziSpec 0 [1, 1, 0, 0, 1] = [0, 1, 0, 1, 0] := by decide
example : (rtlSpec [1, 2, 3, 4, 5]).length = 2 := by simp [rtlSpec, pairs]

/-- **VecToStream, every schedule** (`sched` = (packets queued, free output samples) at each call): the output
is the concatenation of the packets popped so far — nothing lost, split, duplicated or reordered — and the
tags added are exactly a start tag on the first and an end tag on the last sample of every non-empty packet,
carrying the packet length. A packet is emitted whole or not at all. -/
theorem c10_v2s (pk : List (List Nat)) (hpk : ∀ p ∈ pk, ∀ x ∈ p, x + 1 < pktBase) (sched : List (Nat × Nat)) :
    let r := driveV2S pk 0 [] [] sched
    r.1 ≤ pk.length ∧ r.2.1 = (pk.take r.1).flatten ∧ r.2.2 = v2sTags 0 (pk.take r.1) :=
  v2s_drive pk hpk sched 0 [] [] (v2sInv_init pk)

/-- VecToStream, one call: an empty queue waits for a packet; a packet larger than the free output space is
left queued and the block asks for exactly its length; otherwise exactly one packet is popped. -/
theorem c10_v2s_call (p : List Nat) (hp : ∀ x ∈ p, x + 1 < pktBase) (rest : List Nat) (f : Nat) :
    (v2sWork () ⟨[⟨[], [], true⟩], [⟨f, true⟩]⟩).2.verdict = .waitIn 0 1 ∧
    (let r := v2sWork () ⟨[⟨encodePkt p :: rest, [], true⟩], [⟨f, true⟩]⟩
     if p.length > f then r.2.verdict = .waitOut 0 p.length ∧ r.2.consumed.getD 0 0 = 0 ∧
        (r.2.produced.getD 0 ⟨[], []⟩).samples = []
     else r.2.verdict = .again ∧ r.2.consumed.getD 0 0 = 1 ∧ (r.2.produced.getD 0 ⟨[], []⟩).samples = p ∧
        (r.2.produced.getD 0 ⟨[], []⟩).tags = v2sTags 0 [p]) := by
  refine ⟨rfl, ?_⟩
  simp only [v2sWork_cons p hp]
  split <;> simp

/-- **FFT-stream framing, every schedule** (any frame size > 0, any engine): the block only ever consumes whole
frames, and its output is the engine's transform of each consumed frame, in order — no sample lost, duplicated
or re-framed, however the input is cut into read windows and however much output space there is. -/
theorem c10_fft_stream (engine : List Nat → List Nat) (size : Nat) (hs : 0 < size) (X : List Nat)
    (sched : List (Nat × Nat)) :
    let r := drive1 (Dsp.fftStreamBlock engine size) X () 0 [] sched
    ∃ q, r.2.1 = q * size ∧ q * size ≤ X.length ∧ r.2.2 = Dsp.fftStreamSpec engine size X q :=
  Dsp.fftStream_drive engine size hs X sched () 0 [] (Dsp.fftStream_init engine size X)

/-- FFT-stream, one call: it asks for exactly one frame of input or one frame of output room when that is what
is missing, and otherwise transforms at least one frame. -/
theorem c10_fft_stream_call (engine : List Nat → List Nat) (size : Nat) (hs : 0 < size) (X : List Nat) (q a f : Nat)
    (hq : q * size ≤ X.length) :
    let w := (X.drop (q * size)).take a
    let r := Dsp.fftStreamWork engine size () ⟨[⟨w, [], true⟩], [⟨f, true⟩]⟩
    r.2.verdict ≠ .panic ∧ (r.2.verdict = .waitIn 0 size → w.length < size) ∧
    (r.2.verdict = .waitOut 0 size → f < size) ∧ (r.2.verdict = .again → size ≤ r.2.consumed.getD 0 0) := by
  intro w r
  simp only [r, Dsp.fftStreamWork_one engine size hs]
  split
  next hw => exact ⟨nofun, fun _ => hw, nofun, nofun⟩
  split
  next hf => exact ⟨nofun, nofun, fun _ => hf, nofun⟩
  next hw hf => exact ⟨nofun, nofun, nofun, fun _ => Nat.le_mul_of_pos_left size (Nat.div_pos (by omega) hs)⟩

/-- ConstantSource: every call fills all the free space with the value and reports a wait on its output. -/
theorem c10_constant_source (val f : Nat) :
    let r := constWork val () ⟨[], [⟨f, true⟩]⟩
    (r.2.produced.getD 0 ⟨[], []⟩).samples = List.replicate f val ∧ r.2.verdict = .waitOut 0 1 := by
  simp [constWork]

example : (driveV2S [[1, 2, 3], [], [4]] 0 [] [] [(1, 2), (3, 3), (2, 0), (2, 5)]) =
    (3, [1, 2, 3, 4], [⟨0, v2sStartKey, 3⟩, ⟨2, v2sEndKey, 3⟩, ⟨3, v2sStartKey, 1⟩, ⟨3, v2sEndKey, 1⟩]) := by
  decide +kernel

example : (drive1 (Dsp.fftStreamBlock List.reverse 2) [1, 2, 3, 4, 5] () 0 [] [(1, 9), (3, 9), (5, 1), (5, 9)]).2 =
    (4, [2, 1, 4, 3]) := by decide

/-- VectorSink: for every way of cutting the input into read windows, and from every fill level, the
samples stored are the next `max_size − stored` samples of the input in order (nothing duplicated or
reordered); the stored tags lie on stored samples. NullSink stores nothing and consumes everything. -/
theorem c10_vector_sink (max : Nat) (ws : List (List Nat)) (st : Nat) :
    sinkDrive max ws st = (st + min ws.flatten.length (max - st), ws.flatten.take (max - st)) :=
  sink_drive max ws st

theorem c10_vector_sink_call (max st : Nat) (w : List Nat) (ts : List Tag) :
    let r := vsinkWork max st ⟨[⟨w, ts, true⟩], []⟩
    (r.2.produced.getD 0 ⟨[], []⟩).samples = w.take (max - st) ∧
    (∀ t ∈ (r.2.produced.getD 0 ⟨[], []⟩).tags, t ∈ ts ∧ t.pos < (r.2.produced.getD 0 ⟨[], []⟩).samples.length) := by
  intro r
  obtain ⟨_, _, hsamples, htags, _⟩ := vsink_call max st w ts true []
  exact ⟨hsamples, htags⟩

theorem c10_null_sink (w : List Nat) (ts : List Tag) :
    let r := nullWork () ⟨[⟨w, ts, true⟩], []⟩
    r.2.consumed = [w.length] ∧ r.2.produced = [] := by
  intro r
  obtain ⟨hcons, hprod, _⟩ := null_call w ts true
  exact ⟨hcons, hprod⟩

example : sinkDrive 3 [[9, 8], [7, 6]] 0 = (3, [9, 8, 7]) := by decide

/-- `Delay::set_delay` (block `delayctl`: `delaySet` is compared with the real call after every control call,
including its panic). Called in a steady state — start-up zeros out, no drop pending — it never panics, sets the
configured delay, and changes the pending net shift (zeros owed − samples to drop) by exactly `new − old`.
Outside the steady state it panics exactly when `new ≤ old` and `old − new < min(current_delay, new)`
(`Delay::new(s,5); set_delay(4)`), and a raise while zeros are still owed forgets them (`delaySet_net_raise`);
both are recorded as observations in DESIGN.md, since no property quantifies over control calls. -/
theorem c10_set_delay (d : Nat) (st : DelaySt) (nd : Nat) :
    (st.currentDelay = 0 → st.skip = 0 →
      ∃ st', delaySet d st nd = some (nd, st') ∧ st'.net = st.net + ((nd : Int) - (d : Int))) ∧
    (delaySet d st nd = none ↔ nd ≤ d ∧ d - nd < min st.currentDelay nd) := by
  refine ⟨fun h0 hs => ?_, delaySet_none_iff d st nd⟩
  rcases Nat.lt_or_ge d nd with hgt | hle
  · obtain ⟨st', h1, h2⟩ := delaySet_net_raise d st nd hgt
    exact ⟨st', h1, h2.mpr h0⟩
  · -- no zeros are owed, so there is nothing whose cancelling could underflow
    exact delaySet_net_lower d st nd hle hs (by rw [h0, Nat.zero_min]; exact Nat.not_lt_zero _)

end RR.Props.C10
