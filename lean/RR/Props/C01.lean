import RR.Proof.RingRun

/-!
# C01 — streams deliver exactly the committed samples, once, in order

Model: `RR.Ring` (mirror of `BufferState`, `produce`, `consume`, `read_buf`,
`write_buf`, `free` in `src/circular_buffer.rs`). Spec: `RR.Fifo`.
-/
namespace RR.Props.C01
open RR RR.Ring

/-- For every capacity and every finite sequence of stream operations (write
`k` samples and commit `n ≤ k` of them with tags; over-commit; look at the read
window; consume any `m`, including 0, the full capacity and too much; query
free space), the ring shows exactly what the FIFO specification shows: the
committed-and-not-yet-consumed samples, in commit order, identical values, with
their tags, at every wrap offset; and it refuses exactly when the spec does. -/
theorem c01_refines_fifo (cap : Nat) (hcap : 0 < cap) (ops : List Fifo.Op)
    (hv : ∀ op ∈ ops, op.Valid) :
    Ring.run (Ring.init cap) ops = Fifo.run cap [] ops :=
  run_sim (sim_init hcap) ops hv

/-- Readable plus writable always equals the capacity. -/
theorem c01_read_plus_write (cap : Nat) (hcap : 0 < cap) (ops : List Fifo.Op)
    (hv : ∀ op ∈ ops, op.Valid) (s : State) (h : exec (init cap) ops = some s) :
    readLen s + writeLen s = cap := by
  obtain ⟨q, hs, hc⟩ := exec_sim (sim_init hcap) ops hv h
  rw [read_plus_write hs, hc]; rfl

/-- A commit larger than the free space is refused; the state is not touched. -/
theorem c01_overcommit_refused (s : State) (n : Nat) (ts : List Tag) (h : free s < n) :
    produce s n ts = none := produce_refused n ts h

/-- A consume larger than what is readable is refused. -/
theorem c01_overconsume_refused (s : State) (m : Nat) (h : s.used < m) :
    consume s m = none := consume_refused m h

/-- Element sizes: if the sample size divides the buffer size, sample `i` and
sample `i + capacity` are the same bytes of the double mapping (byte `b` and
byte `b + size` alias, C18) … -/
theorem c01_elem_size (ms size i k : Nat) (hd : ms ∣ size) :
    (size / ms + i) * ms + k = (i * ms + k) + size := by
  rw [Nat.add_mul, Nat.div_mul_cancel hd]; omega

/-- … and if it does not, they are not (3-byte samples in a 4096-byte buffer):
such a buffer must be refused — and is, by the admission test. -/
theorem c01_elem_size_witness : (4096 / 3 + 0) * 3 + 0 ≠ (0 * 3 + 0) + 4096 := by decide

theorem c01_bad_elem_size_refused (page ms size : Nat) (h : size % ms ≠ 0) :
    newCap page ms size = none := by simp [newCap, h]

theorem c01_good_size_accepted (page ms size : Nat) (hm : 0 < ms) (hs : 0 < size)
    (h1 : size % ms = 0) (h2 : size % page = 0) : newCap page ms size = some (size / ms) := by
  have : ms ≠ 0 := by omega
  have : size ≠ 0 := by omega
  simp [newCap, *]

/-! Non-vacuity: a concrete valid program that wraps a 4-cell ring, and what it shows. -/
def demo : List Fifo.Op :=
  [.write [1, 2, 3] 3 [⟨2, 7, 8⟩], .consume 2, .write [4, 5, 6] 2 [⟨0, 9, 9⟩, ⟨1, 5, 5⟩], .read,
   .consume 0, .read, .overcommit 0]

example : ∀ op ∈ demo, op.Valid := by decide
example : Fifo.run 4 [] demo =
    [.ok, .ok, .ok, .window [3, 4, 5] [⟨0, 7, 8⟩, ⟨1, 9, 9⟩, ⟨2, 5, 5⟩] 1, .ok,
     .window [3, 4, 5] [⟨0, 7, 8⟩, ⟨1, 9, 9⟩, ⟨2, 5, 5⟩] 1, .refused] := by decide
example : Ring.run (Ring.init 4) demo = Fifo.run 4 [] demo := by decide

end RR.Props.C01
