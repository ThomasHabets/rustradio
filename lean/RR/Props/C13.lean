import RR.Gen.HdlcStatus
import RR.Proof.HdlcRoundtrip
import RR.Proof.HdlcResync
import RR.Proof.HdlcCrcOrbit

/-!
# C13 — HDLC deframer: every valid frame is recovered, nothing invalid is emitted

Model: `RR.Hdlc` — `update_state`, `bits2byte`, `calc_crc`, `find_right_crc`
of `src/hdlc_deframer.rs`, with the 256-entry `FCSTAB`, the flag byte and the
CRC init / xor-out constants regenerated from the source on every run
(`RR.Gen`). Spec: `RR.HdlcSpec` — the transmitter (flags, LSB-first bytes,
CRC-16/X.25 by polynomial division, bit stuffing).
-/
namespace RR.Props.C13
open RR RR.Hdlc RR.HdlcSpec

/-- The generated table is the 256 remainders of the reflected polynomial `0x8408`. -/
theorem c13_table (i : Nat) (hi : i < 256) : tab i = crcStep8 i := table_entries i hi

/-- The deframer's table-driven checksum is CRC-16/X.25 on every byte string. -/
theorem c13_crc_is_x25 (data : List Nat) (hb : ∀ b ∈ data, b < 256) :
    calcCrc data = crcBitwise data := calcCrc_eq_bitwise data hb

/-- CRC gate: with checksum checking on, whatever `update_state` emits has a
verifying checksum against the two received checksum bytes (after the optional
single-bit repair of the data). -/
theorem c13_crc_gate (cfg : Cfg) (hs : cfg.stripChecksum = true) (bits : List Nat) (bit : Nat)
    (p : List Nat) (h : (step cfg (.finalCheck bits) bit).2 = some p) :
    let bytes := toBytes ((bits.drop 7).reverse)
    let got := bytes.getD (bytes.length - 2) 0 + 256 * bytes.getD (bytes.length - 1) 0
    (findRightCrc (bytes.take (bytes.length - 2)) got cfg.fixBits).2 = got ∧
    2 ≤ bytes.length := by
  obtain ⟨hlen, hcrc, -⟩ := step_final_some cfg hs bits bit p h
  exact ⟨hcrc, hlen⟩

/-- Size bounds, exactly: a delimited bit string is considered only if it is a
whole number of bytes `n` with `minSize ≤ n` (and `2 ≤ n` when the checksum is
stripped); everything else leaves the deframer in sync and emits nothing. -/
theorem c13_bounds (cfg : Cfg) (bits : List Nat) (bit : Nat) (hb : bit ≠ 1) :
    (step cfg (.finalCheck bits) bit).1 = .synced 0 [] ∧
    (((bits.drop 7).length % 8 ≠ 0 ∨ (bits.drop 7).length / 8 < cfg.minSize) →
      (step cfg (.finalCheck bits) bit).2 = none) := by
  rw [step_final cfg bits bit hb]
  refine ⟨rfl, fun h => if_neg fun hg => ?_⟩
  simp only [List.length_drop] at h
  omega

/-- Seven ones in a row abort the frame: nothing is emitted. -/
theorem c13_abort (cfg : Cfg) (bits : List Nat) :
    step cfg (.finalCheck bits) 1 = (.unsynced 0xff, none) := step_final_one cfg bits

/-- **Round trip, every payload.** For every payload of byte values within the
configured size limits, the bits the transmitter sends (flag, LSB-first bytes,
CRC-16/X.25 low byte first, bit stuffing, flag) make the deframer — from its
initial state — deliver exactly that payload, once, and leave it right after a
flag. (Chunking is immaterial to the model: `run` is bit-serial; the block's
work loop is tied by the chunked correspondence.) -/
theorem c13_roundtrip (cfg : Cfg) (p : List Nat) (hp : ∀ b ∈ p, b < 256)
    (hs : cfg.stripChecksum = true) (hmin : cfg.minSize ≤ p.length + 2) (hmax : p.length + 2 ≤ cfg.maxSize) :
    run cfg init (frame p) = (.synced 0 [], [p]) := by
  have : frame p = flag ++ body p := by simp [frame, body, List.append_assoc]
  rw [this, run_append, run_opening, run_body cfg p hp hs hmin hmax]
  rfl

/-- **Any number of frames**, back to back with shared flags or separated by
any number of extra flags: exactly the payloads, in order, each once. -/
theorem c13_frames (cfg : Cfg) (hs : cfg.stripChecksum = true) (ps : List (List Nat × Nat))
    (hps : ∀ q ∈ ps, (∀ b ∈ q.1, b < 256) ∧ cfg.minSize ≤ q.1.length + 2 ∧ q.1.length + 2 ≤ cfg.maxSize) :
    run cfg init (flag ++ ps.flatMap fun q => body q.1 ++ (List.replicate q.2 flag).flatten) =
      (.synced 0 [], ps.map (·.1)) :=
  run_bodies cfg hs ps hps (congrArg Prod.fst (run_opening cfg))

/-- **Resynchronisation**: from every reachable state — i.e. after ANY preceding
bits — a flag leaves the deframer right after a flag. -/
theorem c13_resync (cfg : Cfg) (noise : List Nat) (hn : ∀ b ∈ noise, b ≤ 1) :
    (run cfg init (noise ++ flag)).1 = .synced 0 [] :=
  resync_after_noise cfg noise

/-- **After any preceding bit noise**: whatever bits came first, the frames that
follow a flag are delivered exactly, in order, each once; everything delivered
before them was delivered before the flag ended (and, checksum on, passed the
CRC gate `c13_crc_gate`). -/
theorem c13_after_noise (cfg : Cfg) (hs : cfg.stripChecksum = true) (noise : List Nat) (hn : ∀ b ∈ noise, b ≤ 1)
    (ps : List (List Nat × Nat))
    (hps : ∀ q ∈ ps, (∀ b ∈ q.1, b < 256) ∧ cfg.minSize ≤ q.1.length + 2 ∧ q.1.length + 2 ≤ cfg.maxSize) :
    run cfg init ((noise ++ flag) ++ ps.flatMap fun q => body q.1 ++ (List.replicate q.2 flag).flatten) =
      (.synced 0 [], (run cfg init (noise ++ flag)).2 ++ ps.map (·.1)) :=
  run_bodies cfg hs ps hps (resync_after_noise cfg noise)

/-- **Every single-bit corruption of the data is rejected** (checksum on, bit fixing off): the
CRC of the corrupted bytes differs from the transmitted checksum — the bit-serial CRC step is a
linear bijection on 16-bit states, so a one-bit difference never cancels — hence `find_right_crc`
reports a mismatch and `update_state` emits nothing (`c13_crc_gate`). -/
theorem c13_single_bit_detected (pre rest : List Nat) (b j : Nat) (hpre : ∀ x ∈ pre, x < 256)
    (hrest : ∀ x ∈ rest, x < 256) (hb : b < 256) (hj : j < 8) :
    let sent := pre ++ b :: rest
    let received := pre ++ (b ^^^ 2 ^ j) :: rest
    (findRightCrc received (crcBitwise sent) false).2 ≠ crcBitwise sent := by
  intro sent received
  have hrec : received = flipBit sent pre.length j := (flipBit_append_cons pre rest b j).symm
  rw [findRightCrc_nofix, hrec,
    calcCrc_eq_bitwise _ (flipBit_bytes _ _ j
      (List.forall_mem_append.mpr ⟨hpre, List.forall_mem_cons.mpr ⟨hb, hrest⟩⟩) hj)]
  exact crc_flip sent _ j (by simp [sent]) hj

/-- **Every double-bit corruption of the data is rejected** (frames below 4095 bytes): two flipped
bits in different bytes (`c13_two_bits_detected`) or in the same byte leave a checksum mismatch,
because the CRC step walks an orbit of length exactly 32767 through the single-bit states (`x` has
order 32767 modulo the generator; established by kernel evaluation of the whole orbit). -/
theorem c13_two_bits_detected (pre mid rest : List Nat) (b1 j1 b2 j2 : Nat)
    (hpre : ∀ x ∈ pre, x < 256) (hmid : ∀ x ∈ mid, x < 256) (hrest : ∀ x ∈ rest, x < 256)
    (hb1 : b1 < 256) (hb2 : b2 < 256) (hj1 : j1 < 8) (hj2 : j2 < 8) (hlen : mid.length + 1 < 4095) :
    crcBitwise (pre ++ (b1 ^^^ 2 ^ j1) :: (mid ++ (b2 ^^^ 2 ^ j2) :: rest)) ≠
      crcBitwise (pre ++ b1 :: (mid ++ b2 :: rest)) ∧
    (j1 ≠ j2 → crcBitwise (pre ++ (b1 ^^^ 2 ^ j1 ^^^ 2 ^ j2) :: rest) ≠ crcBitwise (pre ++ b1 :: rest)) := by
  constructor
  · have e1 := flipBit_append_cons pre (mid ++ b2 :: rest) b1 j1
    have e2 := flipBit_append_cons (pre ++ (b1 ^^^ 2 ^ j1) :: mid) rest b2 j2
    simp only [List.append_assoc, List.cons_append, List.length_append, List.length_cons] at e2
    rw [← e2, ← e1]
    exact crc_two_flips _ _ _ _ _ (by simp) (by simp) hj1 hj2 (by omega) (by omega) (by omega)
  · intro hne
    rw [← flipBit_append_cons, ← flipBit_append_cons]
    exact crc_two_flips _ _ _ _ _ (by simp) (by simp) hj1 hj2 (by omega) (by omega) (by omega)

/-- Corruptions touching the checksum field: one flipped data bit together with one flipped bit
of the received checksum never verifies, and a corrupted checksum alone never verifies —
with `c13_single_bit_detected` and `c13_two_bits_detected`: **no frame with one or two
corrupted bits anywhere (data or checksum) passes the CRC gate.** -/
theorem c13_checksum_field_errors (pre rest : List Nat) (b j k : Nat) (hpre : ∀ x ∈ pre, x < 256)
    (hrest : ∀ x ∈ rest, x < 256) (hb : b < 256) (hj : j < 8) (hk : k < 16) (hlen : rest.length + 1 < 4094)
    (e : Nat) (he : e ≠ 0) :
    crcBitwise (pre ++ (b ^^^ 2 ^ j) :: rest) ≠ crcBitwise (pre ++ b :: rest) ^^^ 2 ^ k ∧
    crcBitwise (pre ++ b :: rest) ≠ crcBitwise (pre ++ b :: rest) ^^^ e :=
  ⟨by rw [← flipBit_append_cons]; exact crc_flip_and_fcs_bit _ _ j k (by simp) hj hk (by simp; omega),
   fun h => he ((xor_eq_self_iff _ e).mp h.symm)⟩

/-- **Single-bit repair returns the original.** With bit fixing enabled and exactly one data bit
flipped, `find_right_crc` finds that bit and no other (any other single flip would be an undetected
double error), hands back the transmitted bytes, and the checksum it reports verifies. -/
theorem c13_fix_repairs (pre rest : List Nat) (b j : Nat)
    (hpre : ∀ x ∈ pre, x < 256) (hrest : ∀ x ∈ rest, x < 256) (hb : b < 256) (hj : j < 8)
    (hlen : (pre ++ b :: rest).length < 4095) :
    findRightCrc (pre ++ (b ^^^ 2 ^ j) :: rest) (crcBitwise (pre ++ b :: rest)) true =
      (some (pre ++ b :: rest), crcBitwise (pre ++ b :: rest)) := by
  rw [← flipBit_append_cons]
  exact findRightCrc_repairs _ _ j (List.forall_mem_append.mpr ⟨hpre, List.forall_mem_cons.mpr ⟨hb, hrest⟩⟩)
    (by simp) hj hlen

/-- Destuffing inverts stuffing: the stuffed form of any bit string is collected as that string. -/
theorem c13_destuff (cfg : Cfg) (d : List Nat) (hd : ∀ b ∈ d, b ≤ 1) (hl : d.length ≤ cfg.maxSize * 8 + 7) :
    ∃ ones, run cfg (.synced 0 []) (stuff d) = (.synced ones d.reverse, []) := by
  obtain ⟨o, _, h⟩ := run_stuffed cfg 0 d (fun b hb => Nat.lt_succ_of_le (hd b hb)) [] (by omega) (by simpa using hl)
  exact ⟨o, by simpa [stuff] using h⟩

/-! Non-vacuity: the frame of payload `[0x41]` is recovered, after noise that leaves the deframer
mid-frame, with the opening flag shared with the garbage frame. -/
example : (run ⟨2, 50, true, false⟩ init (flag ++ [1, 0, 1] ++ frame [0x41])).2 = [[0x41]] := by decide
example : crcBitwise [0x41] = 0xa3f5 := by decide

end RR.Props.C13
