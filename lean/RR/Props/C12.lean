import RR.Proof.Sync
import RR.Proof.SyncWork
import RR.Proof.Hand
import RR.Proof.DspFir
import RR.Proof.DspFftTags
import RR.Proof.DspHilbert
import Mathlib.Algebra.GroupWithZero.Nat

/-!
# C12 — blocks carry tags forward exactly once, at the corresponding output sample

In the models tags travel inside the views (window-relative positions, as
`read_buf` gives them) and inside what is handed to `produce(n, tags)`.
Proved: the whole plain-`sync` family (one-to-one blocks: same index, exactly
once, for every chunking), the stream contract `tag.pos < n` for every generated
`work()`, the per-call tag handling of Skip, Delay and FirFilter (index /
decimation), and for EVERY schedule of read windows and output space Skip, Delay,
FirFilter, Hilbert (`c12_*_any_chunking`) and FftFilter (`c12_fft`: the block
buffers the tags of an unfinished batch across calls).
CmaEqualizer, VectorSource, correlator, burst tagger and VecToStream
are checked on the real code (`!tags` lines: drip-fed vs greedy run must
deliver identical tags; model comparison for correlator/burst tagger), not as
theorems.

`Mathlib.Algebra.GroupWithZero.Nat` is imported for one instance: the `Zero ℕ` of `chunks.sum` in the statement of
`c12_sync_any_chunking` elaborates through `Nat.instMulZeroClass`. Nothing else here, or below it, uses Mathlib.
-/
namespace RR.Props.C12
open RR RR.Blk

/-- Plain `sync` blocks (stateful or not, any arity): every tag of the first
input comes out exactly once, on the output position of its own sample … -/
theorem c12_sync_same_index (σ : Type) (init : σ) (nin nout : Nat)
    (g : σ → List Nat → Option (σ × List Nat))
    (get : Nat → List Nat × List (List Tag)) (st : σ) (pos k : Nat)
    (st' : σ) (rows : List (List Nat)) (ts : List Tag)
    (h : syncLoopG (pureSync σ init nin nout g) get st pos k = some (st', rows, ts)) :
    ts = (List.range k).flatMap fun p => ((get (pos + p)).2.headD []).map fun t => { t with pos := pos + p } := by
  rw [syncLoopG_pureSync, List.range'_eq_map_range, List.flatMap_map] at h
  obtain ⟨r, _, hr⟩ := Option.map_eq_some_iff.mp h
  exact (congrArg (·.2.2) hr).symm

/-- … however the input was chunked and however much output space was free
(the cumulative tag list of any schedule is the one-shot list). -/
theorem c12_sync_any_chunking (S : SyncSpec) (get : Nat → List Nat × List (List Tag))
    (st : S.σ) (c : Nat) (chunks : List Nat) :
    driveG S get st c chunks =
      (syncLoopG S get st c chunks.sum).map fun (s, rows, ts) => (s, c + chunks.sum, rows, ts) :=
  driveG_eq_oneShot S get st c chunks

/-- Tags of samples that were not processed in a call stay in the stream: the
tags handed to `produce(n, …)` all sit on one of the `n` committed samples. -/
theorem c12_contract_sync (S : SyncSpec) (get : Nat → List Nat × List (List Tag))
    (st : S.σ) (pos k : Nat) (st' : S.σ) (rows : List (List Nat)) (ts : List Tag)
    (h : syncLoopG S get st pos k = some (st', rows, ts)) :
    ∀ t ∈ ts, pos ≤ t.pos ∧ t.pos < pos + k := by
  induction k generalizing st pos rows ts with
  | zero => cases h; nofun
  | succ k ih =>
    rw [syncLoopG_succ] at h
    obtain ⟨r, -, h⟩ := Option.bind_eq_some_iff.mp h
    obtain ⟨q, hq, h⟩ := Option.map_eq_some_iff.mp h
    cases h
    intro t ht
    rcases List.mem_append.mp ht with ht | ht
    · obtain ⟨u, -, rfl⟩ := List.mem_map.mp ht
      simp
    · have := ih _ _ _ _ hq t ht
      omega

/-- Skip (after the skipping is done): the tags of exactly the copied samples, same index. -/
theorem c12_skip (w : List Nat) (ts : List Tag) (f : Nat) (hw : w ≠ []) (hf : 0 < f) :
    let r := skipWork 0 ⟨[⟨w, ts, true⟩], [⟨f, true⟩]⟩
    (r.2.produced.getD 0 ⟨[], []⟩).tags = ts.filter (fun t => decide (t.pos < min w.length f)) ∧
    (r.2.produced.getD 0 ⟨[], []⟩).samples.length = min w.length f := by
  simp only [skipWork_one, if_neg hw, if_neg (Nat.ne_of_gt hf), ↓reduceIte, List.getD_cons_zero, List.length_take,
    true_and]
  omega

/-- Delay: the tags of exactly the copied samples, shifted by the zeros emitted in the same call. -/
theorem c12_delay (cd : Nat) (w : List Nat) (ts : List Tag) (f : Nat) (hw : w ≠ []) (hf : 0 < f) :
    let r := delayWork ⟨cd, 0⟩ ⟨[⟨w, ts, true⟩], [⟨f, true⟩]⟩
    let nz := if cd > 0 then min cd f else 0
    let n := min w.length (f - nz)
    (r.2.produced.getD 0 ⟨[], []⟩).tags =
      (ts.filter fun t => decide (t.pos < n)).map (fun t => { t with pos := t.pos + nz }) ∧
    (r.2.produced.getD 0 ⟨[], []⟩).samples.length = nz + n := by
  simp only [delayWork_one_noskip, if_neg hw, if_neg (Nat.ne_of_gt hf), delay_zeros, sub_min_self',
    List.getD_cons_zero, List.length_append, List.length_replicate, List.length_take, true_and]
  omega

/-- FIR filter (decimating): when a call consumes `n = j·deci` samples, the tags
handed on are those of exactly the consumed samples, each once, at index
`pos / deci`, all inside the `j` committed outputs. -/
theorem c12_fir {α : Type} (o : Dsp.Ops α) (cd : Dsp.Codec α) (rt : List α) (deci : Nat) (w : List Nat)
    (ts : List Tag) (f : Nat) (hd : 0 < deci) (ht : 0 < rt.length) :
    let r := Dsp.firWork o cd rt deci () ⟨[⟨w, ts, true⟩], [⟨f, true⟩]⟩
    let n := r.2.consumed.getD 0 0
    (r.2.produced.getD 0 ⟨[], []⟩).tags =
      (ts.filter fun t => decide (t.pos < n)).map (fun t => { t with pos := t.pos / deci }) ∧
    ∀ t ∈ (r.2.produced.getD 0 ⟨[], []⟩).tags, t.pos < (r.2.produced.getD 0 ⟨[], []⟩).samples.length := by
  intro r n
  simp only [r, n, Dsp.firWork_one o cd rt deci hd ht]
  split
  · simp
  split
  · simp
  refine ⟨rfl, fun t ht' => ?_⟩
  simp only [List.getD_cons_zero, List.mem_map, List.mem_filter, decide_eq_true_eq] at ht'
  obtain ⟨u, ⟨_, hu⟩, rfl⟩ := ht'
  simp only [List.getD_cons_zero, Dsp.filterN, List.length_map, List.length_range]
  exact (Nat.div_lt_iff_lt_mul hd).mpr hu

/-- **Skip(k), every schedule** (`sched` = the (readable, free) pairs of the successive calls; `T` = the
tags of the input history, absolute positions, any number per sample): the tags of the `k` skipped samples are
dropped and every other tag of a consumed sample has been handed on exactly once, at index `pos - k`. -/
theorem c12_skip_any_chunking (k : Nat) (X : List Nat) (T : List Tag) (sched : List (Nat × Nat)) :
    let r := Dsp.driveT (skipBlock k) X T k 0 [] [] sched
    r.2.2.2.Perm ((Dsp.rng T k (max k r.2.1)).map (Dsp.mp (· - k))) ∧ r.2.2.1 = (X.take r.2.1).drop k := by
  have key := skip_driveT k X T sched k 0 [] [] (skip_init k X) (Dsp.perm_rng_zero T k _)
  exact ⟨(Dsp.rng_max T k _).symm ▸ key.2, key.1.2.1⟩

/-- **Delay(d), every schedule**: every tag of a consumed sample has been handed on exactly once, at
index `pos + d` (and the output is `d` zeros followed by the input). -/
theorem c12_delay_any_chunking (d : Nat) (X : List Nat) (T : List Tag) (sched : List (Nat × Nat)) :
    let r := Dsp.driveT (delayBlock d) X T ⟨d, 0⟩ 0 [] [] sched
    r.2.2.2.Perm ((Dsp.rng T 0 r.2.1).map (Dsp.mp (· + d))) ∧
    ∃ z, z ≤ d ∧ (0 < r.2.1 → z = d) ∧ r.2.2.1 = List.replicate z 0 ++ X.take r.2.1 := by
  obtain ⟨h, kt⟩ := delay_driveT d X T sched ⟨d, 0⟩ 0 [] [] (delay_init d X) (Dsp.perm_rng_zero T 0 _)
  exact ⟨kt, h.out⟩

/-- **FirFilter (any arithmetic, any decimation), every schedule**: every tag of a consumed sample has
been handed on exactly once, at index `pos / decimation`; consumed = outputs × decimation. -/
theorem c12_fir_any_chunking {α : Type} (o : Dsp.Ops α) (cd : Dsp.Codec α) (taps : List α) (deci : Nat) (X : List Nat)
    (T : List Tag) (hd : 0 < deci) (ht : 0 < taps.length) (sched : List (Nat × Nat)) :
    let r := Dsp.driveT (Dsp.firBlock o cd taps deci) X T () 0 [] [] sched
    r.2.2.2.Perm ((Dsp.rng T 0 r.2.1).map (Dsp.mp (· / deci))) ∧ r.2.1 = r.2.2.1.length * deci := by
  obtain ⟨⟨q, h1, h2⟩, h3⟩ :=
    Dsp.fir_driveT o cd taps deci hd ht X T sched () 0 [] [] (Dsp.fir_init o cd (Dsp.firNew taps) deci X)
      (Dsp.perm_rng_zero T 0 _)
  exact ⟨h3, by rw [h1, h2]; simp [Dsp.firSpec]⟩

/-- **Hilbert, every schedule**: every tag of a consumed sample has been handed on exactly once, at the same
index (one output per input). -/
theorem c12_hilbert_any_chunking {α : Type} (o : Dsp.Ops α) (cd : Dsp.Codec α) (pair : α → α → Nat)
    (k : List α → List α → α) (taps : List α) (hnt : 0 < taps.length) (X : List Nat) (T : List Tag)
    (sched : List (Nat × Nat)) :
    let B := Dsp.hilbertBlock o cd pair (fun p q => some (k p q)) taps
    let r := Dsp.driveT B X T B.init 0 [] [] sched
    r.2.2.2.Perm (Dsp.rng T 0 r.2.1) ∧ r.2.2.1.length = r.2.1 := by
  intro B r
  obtain ⟨⟨_, h2, _⟩, h3⟩ :=
    Dsp.hilbert_driveT o cd pair k taps X T sched B.init 0 [] [] (Dsp.hilbert_init o cd pair k taps X)
      (Dsp.perm_rng_zero T 0 _)
  exact ⟨Dsp.map_mp_id (Dsp.rng T 0 r.2.1) ▸ h3, by simpa using congrArg List.length h2⟩

/-- **FftFilter, every schedule.** The input history `X` carries the tags `T` (absolute
positions, any number per sample, any order). However the input is cut into read windows and however
much output space each call finds, at every moment: the tags handed downstream so far (rebased to
absolute output positions) are exactly — as a multiset, so each exactly once — the input tags on the
samples emitted so far, at the SAME index; and the tags of the samples consumed but not yet emitted are
exactly what the block holds in `buf_tags`, relative to the pending batch. Nothing is lost, duplicated
or moved. -/
theorem c12_fft {α : Type} (o : Dsp.Ops α) (cd : Dsp.Codec α) (taps : List α) (X : List Nat) (T : List Tag)
    (hS : 0 < Dsp.calcFftSize taps.length - taps.length) (sched : List (Nat × Nat)) :
    let r := Dsp.driveT (Dsp.fftBlock o cd taps) X T (Dsp.fftBlock o cd taps).init 0 [] [] sched
    let emitted := r.2.2.1.length
    r.2.2.2.Perm (Dsp.rng T 0 emitted) ∧
    r.1.bufTags.Perm ((Dsp.rng T emitted r.2.1).map (Dsp.sh emitted)) ∧
    r.2.1 = emitted + r.1.buf.length := by
  obtain ⟨_, hc, hheld, hot⟩ := Dsp.fft_driveT o cd taps X T sched _ 0 [] [] (Dsp.fft_tag_init o taps T)
  exact ⟨hot, hheld, hc⟩

/-! Non-vacuity. -/
example : 0 < Dsp.calcFftSize 3 - 3 := by decide
example : (Dsp.driveT (delayBlock 2) [7, 8, 9, 10] [⟨0, 1, 1⟩, ⟨2, 2, 2⟩, ⟨3, 3, 3⟩] ⟨2, 0⟩ 0 [] [] [(1, 1), (3, 2), (2, 9), (4, 1)]).2 =
    (4, [0, 0, 7, 8, 9, 10], [⟨2, 1, 1⟩, ⟨4, 2, 2⟩, ⟨5, 3, 3⟩]) := by decide
example : (Dsp.driveT (skipBlock 2) [7, 8, 9, 10] [⟨0, 1, 1⟩, ⟨2, 2, 2⟩, ⟨3, 3, 3⟩] (2 : Nat) 0 [] [] [(1, 1), (3, 2), (3, 9)]).2 =
    (4, [9, 10], [⟨0, 2, 2⟩, ⟨1, 3, 3⟩]) := by decide
example :
    let r := Dsp.driveT (Dsp.fftBlock Dsp.giOps Dsp.giCodec [(1, 0), (2, 0), (1, 0)]) (List.range 40)
      [⟨0, 1, 1⟩, ⟨4, 2, 2⟩, ⟨4, 3, 3⟩, ⟨9, 4, 4⟩, ⟨30, 5, 5⟩] (Dsp.fftBlock Dsp.giOps Dsp.giCodec [(1, 0), (2, 0), (1, 0)]).init
      0 [] [] [(3, 100), (7, 100), (1, 100), (20, 100)]
    (r.2.1, r.2.2.1.length, r.2.2.2, r.1.bufTags) = (31, 30, [⟨0, 1, 1⟩, ⟨4, 2, 2⟩, ⟨4, 3, 3⟩, ⟨9, 4, 4⟩], [⟨0, 5, 5⟩]) := by
  decide +kernel
example : (syncWork nrzi (0 : Nat) ⟨[⟨[1, 0, 1], [⟨0, 7, 1⟩, ⟨2, 8, 2⟩, ⟨2, 9, 3⟩], true⟩], [⟨2, true⟩]⟩).2.produced.map (·.tags)
    = [[⟨0, 7, 1⟩]] := by decide

end RR.Props.C12
