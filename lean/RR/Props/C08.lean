import RR.Proof.Sync
import RR.Proof.SyncWork
import RR.Proof.Hand
import RR.Proof.Resampler
import RR.Proof.DspFir
import RR.Proof.Gated
import RR.Proof.SinkSrc
import RR.Proof.Cma

/-!
# C08 — every block is a pure stream function: output independent of chunking

Models: `RR.Blk` — blocks as state machines over abstract FIFO streams
(justified by C01/C02). `syncWork` covers every block built with the derive
macro in `sync`/`sync_tag` mode (Add, AddConst, MultiplyConst, Xor, XorConst,
BinarySlicer, ComplexToMag2, FloatToComplex, Map, Tee, NrziDecode, Descrambler,
CorrelateAccessCode(+Tag), BurstTagger, QuadratureDemod, FastFM,
SinglePoleIirFilter and user blocks) for ANY per-sample function, so one proof
covers them all. Hand-written `work()`s are mirrored one by one
(`RR/Model/Hand.lean`, `Dsp.lean`, `Gated.lean`, `SinkSrc.lean`): Skip, Delay,
RtlSdrDecode, RationalResampler, FirFilter, CmaEqualizer, ZeroCrossing and
SymbolSync, the generator sources and VectorSink are proved here; the remaining
hand-written blocks are checked on the real code only (drip-fed run vs greedy
run must be bit-identical).

A schedule is an arbitrary list of chunk sizes / (readable, free) pairs, with
no bound on length or sizes.
-/
namespace RR.Props.C08
open RR RR.Blk

/-- **The whole sync family.** Whatever the sequence of chunk sizes (window
lengths and free space decide them), threading the block state from call to
call and re-basing window positions, the cumulative rows, tags and final state
equal the one-shot loop over the consumed prefix — for every arity and every
(stateful, possibly panicking) per-sample function. -/
theorem c08_sync_chunk_independent (S : SyncSpec) (get : Nat → List Nat × List (List Tag))
    (st : S.σ) (c : Nat) (chunks : List Nat) :
    driveG S get st c chunks =
      (syncLoopG S get st c chunks.sum).map fun (s, rows, ts) => (s, c + chunks.sum, rows, ts) :=
  driveG_eq_oneShot S get st c chunks

/-- One run's output is a prefix of the other's while input is pending. -/
theorem c08_sync_prefix (S : SyncSpec) (get : Nat → List Nat × List (List Tag)) (st : S.σ)
    (ch1 ch2 : List Nat) (h : ch1.sum ≤ ch2.sum)
    (s1 s2 : S.σ) (c1 c2 : Nat) (rows1 rows2 : List (List Nat)) (t1 t2 : List Tag)
    (h1 : driveG S get st 0 ch1 = some (s1, c1, rows1, t1))
    (h2 : driveG S get st 0 ch2 = some (s2, c2, rows2, t2)) :
    rows1 <+: rows2 ∧ t1 <+: t2 := by
  -- both are one-shot loops, and the longer one is the shorter one continued
  rw [driveG_eq_oneShot] at h1 h2
  obtain ⟨d, hd⟩ := Nat.exists_eq_add_of_le h
  rw [hd, syncLoopG_append] at h2
  obtain ⟨⟨a, b, c⟩, e1, h1⟩ := Option.map_eq_some_iff.mp h1
  obtain ⟨r, e2, h2⟩ := Option.map_eq_some_iff.mp h2
  rw [e1, Option.bind_some] at e2
  obtain ⟨r2, -, rfl⟩ := Option.map_eq_some_iff.mp e2
  cases h1
  cases h2
  exact ⟨List.prefix_append _ _, List.prefix_append _ _⟩

/-- What the generated `work()` computes on read windows that start at absolute
position `c` of the input histories is the loop on the histories from `c`
(positions shifted): the link between the executable model and `driveG`. -/
theorem c08_sync_window (S : SyncSpec) (fulls : List InView) (avs : List Nat) (c : Nat) (st : S.σ)
    (n : Nat) (hl : fulls.length ≤ avs.length) (hn : ∀ a ∈ avs, n ≤ a) :
    shiftRes c (syncLoop S (List.zipWith (fun full a => winView full c a) fulls avs) st 0 n) =
      syncLoopG S (viewAt fulls) st c n :=
  syncLoopG_shift S _ (viewAt fulls) c st 0 n fun p _ hp =>
    viewAt_window fulls avs c p hl fun a ha => Nat.lt_of_lt_of_le (Nat.zero_add n ▸ hp) (hn a ha)

/-- **Skip**: for every schedule the cumulative output is the consumed prefix
without its first `k` samples, and the remaining skip count is right. -/
theorem c08_skip (k : Nat) (X : List Nat) (sched : List (Nat × Nat)) :
    let r := drive1 (skipBlock k) X k 0 [] sched
    r.2.2 = (X.take r.2.1).drop k ∧ r.1 = k - min k r.2.1 := by
  obtain ⟨hst, hout, _⟩ := skip_drive k X sched k 0 [] (skip_init k X)
  exact ⟨hout, hst.trans (sub_min_self k _).symm⟩

/-- **Delay**: for every schedule the cumulative output is `z ≤ k` zeros followed
by the consumed prefix, with all `k` zeros out before the first input sample. -/
theorem c08_delay (k : Nat) (X : List Nat) (sched : List (Nat × Nat)) :
    let r := drive1 (delayBlock k) X ⟨k, 0⟩ 0 [] sched
    ∃ z', z' ≤ k ∧ (0 < r.2.1 → z' = k) ∧ r.2.2 = List.replicate z' 0 ++ X.take r.2.1 :=
  (delay_drive k X sched _ 0 [] (delay_init k X)).out

/-- **RtlSdrDecode**: for every schedule the cumulative output is the pairwise
conversion of the (even) consumed prefix. -/
theorem c08_rtlsdr (X : List Nat) (sched : List (Nat × Nat)) :
    let r := drive1 rtlBlock X () 0 [] sched
    r.2.2 = rtlSpec (X.take r.2.1) ∧ r.2.1 % 2 = 0 :=
  rtl_drive X sched () 0 [] (rtl_init X)

/-- None of these `work()`s panics, on any window and any free space. -/
theorem c08_no_panic_hand (k : Nat) (X : List Nat) (c a f z : Nat) (hz : z ≤ k) (hcz : 0 < c → z = k)
    (hc : c % 2 = 0) :
    (skipWork (k - min k c) ⟨[⟨(X.drop c).take a, [], true⟩], [⟨f, true⟩]⟩).2.verdict ≠ .panic ∧
    (delayWork ⟨k - z, 0⟩ ⟨[⟨(X.drop c).take a, [], true⟩], [⟨f, true⟩]⟩).2.verdict ≠ .panic ∧
    (rtlWork () ⟨[⟨(X.drop c).take a, [], true⟩], [⟨f, true⟩]⟩).2.verdict ≠ .panic :=
  ⟨skipWork_no_panic _ _, delayWork_no_panic _ _, rtlWork_no_panic _ _⟩

/-- **RationalResampler, any chunking** — including an output that fills up in the
middle of the copies of one sample: the output delivered so far, followed by the reference
output of the unconsumed input from the block's counter, is the reference output
(`resRef`: the same arithmetic with unbounded output space) of the whole input. -/
theorem c08_resampler (I D : Int) (hD : 0 < D) (X : List Nat) (sched : List (Nat × Nat)) :
    let r := drive1 (resBlockRaw I D) X (0 : Int) 0 [] sched
    resRef I D 0 X = r.2.2 ++ resRef I D r.1 (X.drop r.2.1) :=
  res_drive I D hD X sched 0 0 [] (res_init I D X)

/-- FIR filter (any arithmetic, any decimation), any chunking: see `c11_fir_any_chunking`. -/
theorem c08_fir {α : Type} (o : Dsp.Ops α) (cd : Dsp.Codec α) (taps : List α) (deci : Nat) (X : List Nat)
    (hd : 0 < deci) (ht : 0 < taps.length) (sched : List (Nat × Nat)) :
    let r := drive1 (Dsp.firBlock o cd taps deci) X () 0 [] sched
    ∃ q', r.2.1 = q' * deci ∧ r.2.2 = Dsp.firSpec o cd (Dsp.firNew taps) deci X q' :=
  Dsp.fir_drive o cd taps deci hd ht X sched () 0 [] (Dsp.fir_init o cd (Dsp.firNew taps) deci X)

/-- **ZeroCrossing and SymbolSync (the gated transducer family), every schedule.** With one or two
outputs (symbols, clock), however the input is cut into read windows and however much room each
output has at each call (`sched` = list of (readable, free on output 0, free on output 1)): if no call
panicked, the block has consumed a prefix of its input and its readers hold exactly the rows the
per-sample state machine emits on that prefix — a function of the consumed samples alone. -/
theorem c08_gated (G : Gated) (hn : G.nout = 1 ∨ G.nout = 2) (X : List Nat) (sched : List (Nat × Nat × Nat))
    (st' : G.σ) (c' : Nat) (rows' : List (List Nat)) (h : driveGated G X G.init 0 [] sched = some (st', c', rows')) :
    c' ≤ X.length ∧ ∃ R', gatedRun G (X.take c') G.init [] = some (st', R') ∧ rows' = cols G.nout R' :=
  gated_drive G hn X sched G.init 0 [] (gated_init G X) st' c' rows' h

/-- … hence the outputs of any two schedules are prefix-related (the one that consumed less delivered a prefix). -/
theorem c08_gated_prefix (G : Gated) (hn : G.nout = 1 ∨ G.nout = 2) (X : List Nat) (s1 s2 : List (Nat × Nat × Nat))
    (st1 st2 : G.σ) (c1 c2 : Nat) (r1 r2 : List (List Nat))
    (h1 : driveGated G X G.init 0 [] s1 = some (st1, c1, r1)) (h2 : driveGated G X G.init 0 [] s2 = some (st2, c2, r2))
    (hc : c1 ≤ c2) : ∃ ext, r2 = r1 ++ ext := by
  obtain ⟨_, R1, g1, e1⟩ := c08_gated G hn X s1 st1 c1 r1 h1
  obtain ⟨_, R2, g2, e2⟩ := c08_gated G hn X s2 st2 c2 r2 h2
  obtain ⟨ext, he⟩ := gatedRun_take_prefix G X c1 c2 hc st1 st2 R1 R2 g1 g2
  exact ⟨cols G.nout ext, by rw [e1, e2, he, cols_append]⟩

/-- ZeroCrossing (any arithmetic, any `sps`, with or without the clock output) never panics, on any schedule. -/
theorem c08_zerocrossing_no_panic {α : Type} (o : ZOps α) (sps : α) (nout : Nat) (X : List Nat)
    (sched : List (Nat × Nat × Nat)) : driveGated (zcGated o sps nout) X (zcGated o sps nout).init 0 [] sched ≠ none :=
  driveGated_no_panic (zcGated o sps nout) (by intro st s; simp [zcGated]) X sched _ _ _

/-! Non-vacuity. -/
example : (driveGated toyGated [1, 2, 3, 4, 5, 6] (0 : Nat) 0 [] [(3, 1, 5), (6, 5, 0), (6, 5, 5)]).map (·.2) =
    some (6, [[2, 1], [4, 3], [6, 5]]) := by decide
example : (drive1 (resBlockRaw 3 2) [7, 8, 9, 10] (0 : Int) 0 [] [(4, 1), (4, 2), (0, 9), (4, 1), (4, 9)]).2.2 =
    resRef 3 2 0 [7, 8, 9, 10] := by decide
example : resRef 3 2 0 [7, 8, 9, 10] = [7, 7, 8, 9, 9, 10] := by decide
example : (drive1 (skipBlock 2) [1, 2, 3, 4, 5] (2 : Nat) 0 [] [(1, 9), (3, 9), (9, 1), (9, 9)]).2 = (5, [3, 4, 5]) := by
  decide
example : (drive1 (delayBlock 2) [7, 8, 9] ⟨2, 0⟩ 0 [] [(1, 1), (3, 2), (3, 9)]).2 = (3, [0, 0, 7, 8, 9]) := by
  decide
example : (driveG nrzi (fun p => ([p % 2], [[]])) (0 : Nat) 0 [2, 0, 3]).map (fun r => (r.2.1, r.2.2.1)) =
    some (5, [[1], [0], [0], [0], [0]]) := by decide

/-- Generator sources (SignalSourceFloat / SignalSourceComplex: a block without inputs that fills its write
window from an iterator): for EVERY sequence of free-space values the samples emitted are exactly the first
`Σ free` items of the iterator — nothing skipped, repeated or recomputed across calls. -/
theorem c08_generator_source (G : GenSrc) (fs : List Nat) :
    genDrive G fs G.init = genTake G fs.sum G.init := gen_drive G fs G.init

/-- … hence of two schedules, one run's output is a prefix of the other's. -/
theorem c08_generator_source_prefix (G : GenSrc) (fs gs : List Nat) (h : fs.sum ≤ gs.sum) :
    (genDrive G fs G.init).2 <+: (genDrive G gs G.init).2 := by
  rw [gen_drive, gen_drive]
  obtain ⟨d, hd⟩ := Nat.exists_eq_add_of_le h
  rw [hd, genTake_add]
  exact List.prefix_append _ _

/-- VectorSink: however the input `X` is cut into read windows, the storage ends as the first `max_size`
samples of `X`. -/
theorem c08_vector_sink (max : Nat) (ws : List (List Nat)) :
    (sinkDrive max ws 0).2 = ws.flatten.take max := by
  rw [sink_drive]; rfl

example : (genDrive ⟨Nat, 0, fun n => (n + 1, 10 * n)⟩ [2, 0, 3] 0) = (5, [0, 10, 20, 30, 40]) := by decide
example : (sinkDrive 4 [[1, 2], [], [3, 4, 5], [6]] 0) = (4, [1, 2, 3, 4]) := by decide

/-- `CmaEqualizer` (model compared with the real block call by call, float arithmetic included): for EVERY
schedule of (readable prefix, free output space) the taps and the cumulative output are those of `k'` whole blocks of
`ntaps` samples, where `k'·ntaps` is the number of samples consumed — a function of the input history alone. -/
theorem c08_cma (n : Nat) (m s : Float32) (X : List Nat) (sched : List (Nat × Nat)) (k : Nat) :
    ∃ k', k ≤ k' ∧
      RR.Blk.drive1 (RR.Dsp.cmaBlock n m s) X (RR.Dsp.cmaBlocks n m s X k).1 (k * n) (RR.Dsp.cmaBlocks n m s X k).2 sched =
        ((RR.Dsp.cmaBlocks n m s X k').1, k' * n, (RR.Dsp.cmaBlocks n m s X k').2) :=
  Dsp.cma_drive n m s X k sched _ _ _ (Dsp.cma_init n m s X k)

end RR.Props.C08
