import RR.Proof.Sched
import RR.Proof.KpnRun
import RR.Proof.KpnRetire

/-!
# C06 — the single-threaded runner returns only at quiescence

Model: `RR.Sched.stRun` (mirror of `Graph::run`, including the stream activity
counter that the `fix:` commit "Graph::run could return while data was still in
flight" added). Blocks are arbitrary scripts: each call answers a verdict and
says whether it moved data, so the theorems hold for every block behaviour —
in particular for blocks that report a wait/EOF status from a call in which
they also moved data, and for every order in which blocks were added (the
order of the script list is arbitrary).

That the data at quiescence is the *reference result* is the graph layer of C05,
shared by both runners (`c06_every_schedule_result`, `c06_retire_all_is_reference`
below); the rest is the runner part.
-/
namespace RR.Props.C06
open RR RR.Sched

/-- `run()` returns normally (no cancellation, no error) only after a pass in
which no block failed, no block answered `Again`/`Pending`, and the stream
activity counter did not move. -/
theorem c06_exit_quiescent (scripts : List Script) (st' : ST)
    (h : stRun scripts none = (.ok, st')) :
    ∃ st0, (pass scripts st0).st = st' ∧ (pass scripts st0).done = true ∧
      (pass scripts st0).moved = false ∧ (pass scripts st0).failed = none :=
  stLoop_quiet scripts _ _ st' h

/-- What such a pass means call by call: every block that was called in it
moved nothing and did not ask to be called again (and every block that was not
called is retired — see `callBlock`). -/
theorem c06_quiet_pass_calls (scripts : List Script) (acc : PassOut) (n : Nat)
    (h : (callBlock scripts acc n).done = true ∧ (callBlock scripts acc n).moved = false) :
    acc.done = true ∧ acc.moved = false ∧
    ((callBlock scripts acc n).st.answers = acc.st.answers ∨
     ∃ c, (callBlock scripts acc n).st.answers = acc.st.answers ++ [c] ∧ c.moved = false ∧
       c.v ≠ .again ∧ c.v ≠ .pending) := by
  rcases callBlock_cases scripts acc n with e | ⟨_, _, e⟩ <;> rw [e] at h ⊢
  · exact ⟨h.1, h.2, Or.inl rfl⟩
  · obtain ⟨a, b, c⟩ := doCall_quiet scripts acc n h
    exact ⟨a, b, Or.inr c⟩

/-- A pass in which some call moved data is never the last one (unless a block
fails or the run is cancelled): this is exactly what the pre-fix runner lacked. -/
theorem c06_progress_continues (scripts : List Script) (st : ST) (fuel : Nat)
    (hm : (pass scripts st).moved = true) (hf : (pass scripts st).failed = none) :
    stLoop scripts none st (fuel + 1) = stLoop scripts none (pass scripts st).st fuel := by
  simp [stLoop, cancelled, hf, hm]

/-- Quiescence is a fixpoint. Abstractly: blocks are deterministic functions
of a global state (their own state and all stream contents); the contract
(C09) says a call that is *quiet* — moved nothing and did not ask to be called
again — changed nothing. Then after a pass of quiet calls the state is the
one before the pass, and every further call of any of those blocks, in any
order, is again quiet and changes nothing: no block can make further progress. -/
theorem c06_quiescent_is_fixpoint {σ : Type} (work : Nat → σ → σ × Bool)
    (contract : ∀ i s, (work i s).2 = true → (work i s).1 = s)
    (l : List Nat) (s : σ)
    (quiet : ∀ i ∈ l, (work i s).2 = true) (more : List Nat) (hm : ∀ i ∈ more, i ∈ l) :
    more.foldl (fun s i => (work i s).1) s = s :=
  List.foldlRecOn (motive := (· = s)) more _ rfl fun _ hs i hi => hs ▸ contract i s (quiet i (hm i hi))

/-- The defect that was repaired: with the old rule (`done` alone) the runner
returned after a pass in which data moved. Witness: consumer added before its
source; the source emits everything and answers EOF in the same call. The
fixed runner takes another pass, so the sink gets to run. -/
def witness : List Script :=
  [ [⟨.waitStream false false, false, false⟩, ⟨.waitStream false false, false, true⟩],  -- sink
    [⟨.eof, false, true⟩] ]                                                               -- source

theorem c06_witness_needs_second_pass :
    (pass witness (stInit witness)).done = true ∧ (pass witness (stInit witness)).moved = true ∧
    (stRun witness none).2.log = [0, 1, 0, 0] := by decide

/-- **The runner always returns** (blocks with finite behaviour: a block whose script is
exhausted answers EOF): within `total calls + number of blocks + 1` passes the loop leaves
through one of its three exits — cancelled, a block's error, or a quiet pass. -/
theorem c06_terminates (scripts : List Script) (cancelAt : Option Nat) :
    (stRun scripts cancelAt).1 ≠ .outOfFuel :=
  stLoop_terminates scripts cancelAt _ _ (by simp [stInit]) (by rw [budget_init]; omega)

/-- **The reference result, for every order of calls.** The single-threaded runner is one particular schedule of
block steps (passes over the blocks in add order, repeated): whatever the add order, the stream sizes and the
amounts each call moves, a run that ends with everything consumed and emitted — which is what `run()` returning
at quiescence means for blocks with truthful verdicts (C09) — has computed the sequential reference execution on
every stream, in particular on every sink's input. (Same theorem as C05's: the graph layer does not depend on
which runner produced the schedule.) -/
theorem c06_every_schedule_result (nodes : List Kpn.Node)
    (hw : ∀ m, (hm : m < nodes.length) → ∀ i ∈ nodes[m].ins, i < Kpn.base nodes m)
    (s : Kpn.GState) (r : Kpn.Run nodes ⟨List.replicate (Kpn.base nodes nodes.length) [], []⟩ s)
    (hall : Kpn.AllConsumed nodes s) : s.h = Kpn.eval nodes [] :=
  Kpn.run_terminal nodes hw s r hall

/-- **Retiring blocks.** Both runners stop calling a block once its `eof()` has answered true after a wait verdict,
or once the wait it reported can never be satisfied (the named stream's peer is gone and too little is left).
With the set of retired blocks added to the graph state (a retired block takes no more steps): for EVERY
interleaving of block steps and retirements in which each retirement was *sound* — every stream the block reads
belongs to an already retired block, the block has consumed all of it and emitted everything its history function
gives — the state in which all blocks are retired holds the sequential reference execution on every stream. -/
theorem c06_retire_all_is_reference (nodes : List Kpn.Node)
    (hw : ∀ m, (hm : m < nodes.length) → ∀ i ∈ nodes[m].ins, i < Kpn.base nodes m)
    (R : List Nat) (s : Kpn.GState)
    (r : Kpn.RRun nodes ([], ⟨List.replicate (Kpn.base nodes nodes.length) [], []⟩) (R, s))
    (hall : ∀ m, m < nodes.length → m ∈ R) : s.h = Kpn.eval nodes [] :=
  Kpn.retire_all_is_reference nodes hw R s r hall

/-- The soundness of the retirements is needed: a pass-through block that has consumed its three input samples
and delivered two of them (the third still inside — `FftFilterFloat` before `fix:` 88f9b55) is in a reachable
state that satisfies the invariant; retiring it there ends the run with `[1, 2]` where the reference has
`[1, 2, 3]`. -/
theorem c06_unsound_retire_loses :
    Kpn.Run Kpn.lagNodes Kpn.lagS0 Kpn.lagS2 ∧ Kpn.Inv Kpn.lagNodes Kpn.lagS2 ∧
    ¬ Kpn.Done Kpn.lagNodes Kpn.lagS2 1 (by decide) ∧
    Kpn.lagS2.h.getD 1 [] = [1, 2] ∧ (Kpn.eval Kpn.lagNodes []).getD 1 [] = [1, 2, 3] :=
  Kpn.unsound_retire_loses

end RR.Props.C06
