import RR.Proof.Sched
import RR.Proof.SchedMt

/-!
# C07 — runners stop on cancellation and report block failures as errors

Model: `RR.Sched` — `Graph::run` (`stRun`: passes over the blocks, `eof[]`
flags, cancel poll at the head of each pass, `work()?`) and the per-block
thread loop of `MTGraph::run` (`mtLoop`) with its join/result rule
(`mtResult`), as functions of what the blocks answer. Blocks are arbitrary
scripts, so the theorems quantify over every behaviour of every block.

Partial: "bounded" in wall-clock terms (a `wait` lasts ≤ 100 ms, the OS runs
the threads) is assumed.
-/
namespace RR.Props.C07
open RR RR.Sched

/-- Single-threaded runner: once the token is set (during the `c`-th `work()`
call counted over all blocks, or before `run()` for `c = 0`), the calls that
are still begun form a strictly increasing sequence of block indices: at most
the rest of the current pass, hence at most one further call per block. -/
theorem c07_cancel_st (scripts : List Script) (c : Nat) :
    ((stRun scripts (some c)).2.log.drop c).Pairwise (· < ·) :=
  stLoop_cancel scripts c _ _ (by simp [stInit])

/-- Multi-threaded runner: a block thread that sees the token set at the check
before its call number `c` makes no call number `≥ c` — so after cancellation at
most the call in progress (and its wait) completes. -/
theorem c07_cancel_mt (script : Script) (c : Nat) :
    (mtThread script (some c)).1 ≤ c := by
  have := mtLoop_cancel script c 0 (script.length + 2)
  unfold mtThread; omega

/-- Single-threaded runner: `run()` returns `Ok` only if no `work()` call ever
answered with an error; and if it returns `Err n`, the failing call is the last
call made and it was block `n`'s. -/
theorem c07_error_st (scripts : List Script) (cancelAt : Option Nat) :
    let r := stRun scripts cancelAt
    (r.1 = .ok → ∀ a ∈ r.2.answers, a.v ≠ .err) ∧
    (∀ n, r.1 = .err n → (r.2.answers.getLast?.map (·.v)) = some .err ∧ r.2.log.getLast? = some n) :=
  stLoop_err scripts cancelAt (stInit scripts) (totalCalls scripts + scripts.length + 2)
    (by intro c hc; simp [stInit] at hc)

/-- A failing call ends the pass and the run at once: nothing is called after it. -/
theorem c07_error_st_immediate (scripts : List Script) (acc : PassOut) (n : Nat)
    (h : acc.failed.isSome = true) : callBlock scripts acc n = acc :=
  (callBlock_cases scripts acc n).resolve_right fun ⟨hf, _⟩ => by simp [hf] at h

/-- Multi-threaded runner: an `Err` answer ends that block's thread as failed … -/
theorem c07_error_mt_thread (script : Script) (cancelAt : Option Nat) (k fuel : Nat)
    (hc : seenCancel cancelAt k = false) (hv : (callAt script k).v = .err) :
    mtLoop script cancelAt k (fuel + 1) = (k + 1, .failed) := by
  simp [mtLoop_succ, hc, Call.mtExit, hv]

/-- … and `run()` returns `Ok` exactly when no thread failed, otherwise the
error of a thread that did fail (after joining all threads). -/
theorem c07_error_mt (exits : List Exit) :
    (mtResult exits = .ok ↔ ∀ e ∈ exits, e ≠ .failed) ∧
    (∀ n, mtResult exits = .err n → exits[n]? = some .failed) ∧
    mtResult exits ≠ .outOfFuel := by
  refine ⟨mtResult_ok exits, fun n h => ?_, (mtResult_eq_iff exits .outOfFuel).mp⟩
  obtain ⟨hlt, hp, _⟩ := List.findIdx?_eq_some_iff_getElem.mp ((mtResult_eq_iff exits (.err n)).mp h)
  rw [List.getElem?_eq_getElem hlt, beq_iff_eq.mp hp]

example : (stRun [[⟨.again, false, false⟩, ⟨.err, false, false⟩], [⟨.again, false, false⟩]] none).1 = .err 0 := by
  decide
example : (stRun [[⟨.again, false, false⟩, ⟨.again, false, false⟩, ⟨.again, false, false⟩],
                  [⟨.again, false, false⟩, ⟨.again, false, false⟩]] (some 1)).2.log = [0, 1] := by decide
example : mtThread [⟨.again, false, false⟩, ⟨.again, false, false⟩, ⟨.again, false, false⟩] (some 2) = (2, .cancelled) := by
  decide
example : mtResult [.eof, .failed, .retired] = .err 1 := by decide

end RR.Props.C07
