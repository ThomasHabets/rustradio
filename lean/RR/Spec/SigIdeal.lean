import RR.Model.SinkSrc
import Mathlib.Analysis.SpecialFunctions.Trigonometric.Basic

/-!
The arithmetic of the signal sources over exact reals (`realSigOps`): the phase is reduced by any whole number of
turns after every step. The pure-tone statements of C11 are about the sources instantiated with it.
-/
namespace RR.Blk
open Real

/-- exact arithmetic; `turns x` is the whole number of turns the reduction removes from `x` -/
noncomputable def realSigOps (turns : ℝ → ℤ) : SigOps ℝ :=
  { zero := 0, add := (· + ·), wrap := fun x => x - turns x * (2 * π), sin := Real.sin
    quarter := fun x => x - π / 2 }

end RR.Blk
