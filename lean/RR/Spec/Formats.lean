import RR.Model.AuBlock
import RR.Model.FileSink

/-!
A well-formed value of a sample type (`Val.ok`), the body of an `.au` file and the decoder driven over a byte stream
(`Au.body`, `auDrive`), and a sequence of `FileSink` `work()` calls (`runCalls`). Statements of C14 and C17 are written
with them.
-/
namespace RR.Codec

/-- Well-formed value of a type: patterns fit the width. -/
def Val.ok (t : Ty) (v : Val) : Prop :=
  match t with
  | .u8 => v.re < 256 ∧ v.im = 0
  | .complex => v.re < 256 ^ 4 ∧ v.im < 256 ^ 4
  | _ => v.re < 256 ^ 4 ∧ v.im = 0

end RR.Codec

namespace RR.Au
open RR RR.Blk

/-- what follows the header in `encode`: two big-endian bytes per sample -/
def body (q : Nat → Nat) (xs : List Nat) : List Nat := xs.flatMap fun x => beBytes 2 (q x)

/-- Drive the decoder over the byte stream `X`; stops at the first error. -/
def auDrive (bitrate : Nat) (deq : Nat → Nat) (X : List Nat) :
    DecSt → Nat → List Nat → List (Nat × Nat) → DecSt × Nat × List Nat × Bool
  | st, c, out, [] => (st, c, out, false)
  | st, c, out, (a, f) :: rest =>
    let r := decWork bitrate deq st ⟨[⟨(X.drop c).take a, [], true⟩], [⟨f, true⟩]⟩
    if r.2.verdict = .err then (r.1, c + r.2.consumed.getD 0 0, out, true)
    else auDrive bitrate deq X r.1 (c + r.2.consumed.getD 0 0) (out ++ (r.2.produced.getD 0 ⟨[], []⟩).samples) rest

end RR.Au

namespace RR.FileSink

def runCalls (prog : List Ev) : St → List (Nat × Nat) → St
  | s, [] => s
  | s, (k, sp) :: rest => runCalls prog (workCall prog (min k s.todo.length) sp s) rest

end RR.FileSink
