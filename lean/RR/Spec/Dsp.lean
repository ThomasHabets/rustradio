import RR.Model.Dsp

/-!
Stream-level reference functions of the filter blocks over ANY arithmetic (`Ops α`, floats included): what
`FirFilter` (`firSpec`) and `Hilbert` (`hilZ`, `hilOut`) put out for an input history. Statements of C08 and C11 are
written with them.
-/
namespace RR.Dsp
open RR.Blk

variable {α : Type}

/-- The stream-level specification: output `m` is `filter` applied at offset `m * deci`. -/
def firSpec (o : Ops α) (cd : Codec α) (rt : List α) (deci : Nat) (X : List Nat) (k : Nat) : List Nat :=
  (List.range k).map fun m => cd.enc (dot o rt ((X.map cd.dec).drop (m * deci)))

end RR.Dsp

namespace RR.Dsp
open RR RR.Blk

variable {α : Type}

/-- zero pre-history, then the decoded input -/
def hilZ (o : Ops α) (cd : Codec α) (nt : Nat) (X : List Nat) : List α := List.replicate nt o.zero ++ X.map cd.dec

/-- output sample `j` -/
def hilOut (o : Ops α) (cd : Codec α) (pair : α → α → Nat) (k : List α → List α → α) (rt : List α) (X : List Nat) (j : Nat) : Nat :=
  let Z := hilZ o cd rt.length X
  pair (Z.getD (j + rt.length / 2) o.zero) (k rt ((Z.drop j).take rt.length))

end RR.Dsp
