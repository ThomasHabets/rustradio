/-!
A graph of deterministic stream functions and its executions: the sequential reference evaluation (`eval`,
`Quiescent`), the steps any interleaving of blocks may take (`GState`, `Step`, `Run`, `Inv`, `AllConsumed`), and runs
in which blocks retire after a sound `eof()` (`RStep`, `RRun`, `EofSound`). The statements of C05 and C06 are written
with them.
-/
namespace RR.Kpn

structure Node where
  /-- ids of the streams this block reads (all created earlier) -/
  ins : List Nat
  nout : Nat
  /-- the block's history function: complete input histories ↦ complete output histories -/
  F : List (List Nat) → List (List Nat)

def inputsOf (n : Node) (hs : List (List Nat)) : List (List Nat) := n.ins.map fun i => hs.getD i []

def outsOf (n : Node) (hs : List (List Nat)) : List (List Nat) :=
  (List.range n.nout).map fun j => (n.F (inputsOf n hs)).getD j []

/-- The sequential reference execution: blocks in creation order, each on the
complete histories of its inputs. -/
def eval : List Node → List (List Nat) → List (List Nat)
  | [], hs => hs
  | n :: rest, hs => eval rest (hs ++ outsOf n hs)

/-- `h` (a history for every stream) is quiescent for the nodes whose outputs
start at stream id `b`: wiring only refers to earlier streams, and every
output history is the block's function of its input histories. -/
def Quiescent : List Node → Nat → List (List Nat) → Prop
  | [], b, h => h.length = b
  | n :: rest, b, h =>
    (∀ i ∈ n.ins, i < b) ∧
    (∀ j, j < n.nout → h.getD (b + j) [] = (n.F (inputsOf n h)).getD j []) ∧
    Quiescent rest (b + n.nout) h

/-- the id of the first output stream of node `m` (streams are numbered in creation order) -/
def base (nodes : List Node) (m : Nat) : Nat := ((nodes.take m).map (·.nout)).sum

/-- what node `n` has consumed: a prefix of each of its input histories -/
def consumedOf (n : Node) (h : List (List Nat)) (cs : List Nat) : List (List Nat) :=
  (List.range n.ins.length).map fun k => (h.getD (n.ins.getD k 0) []).take (cs.getD k 0)

structure GState where
  /-- committed history of every stream -/
  h : List (List Nat)
  /-- per node, per input: number of samples consumed -/
  cs : List (List Nat)

/-- every block's outputs so far are a prefix of its history function of what it has consumed (equal once the
block has emitted all it can: a block may lag behind, e.g. `Delay` before its first call owes its zeros); it has
consumed no more than exists -/
def Inv (nodes : List Node) (s : GState) : Prop :=
  s.h.length = base nodes nodes.length ∧
  ∀ m, (hm : m < nodes.length) →
    (∀ i ∈ nodes[m].ins, i < base nodes m) ∧
    (∀ j, j < nodes[m].nout → ∃ ext,
      (nodes[m].F (consumedOf nodes[m] s.h (s.cs.getD m []))).getD j [] = s.h.getD (base nodes m + j) [] ++ ext) ∧
    (∀ k, k < nodes[m].ins.length →
      (s.cs.getD m []).getD k 0 ≤ (s.h.getD (nodes[m].ins.getD k 0) []).length)

/-- One step by node `idx` (any number of `work()` calls of that block): it has now consumed `cs'` (no less than
before, no more than there is), its outputs have grown and are still a prefix of its function of what it has
consumed, and nothing else changes. -/
structure Step (nodes : List Node) (idx : Nat) (s s' : GState) : Prop where
  hidx : idx < nodes.length
  len : s'.h.length = s.h.length
  cs_other : ∀ m, m ≠ idx → s'.cs.getD m [] = s.cs.getD m []
  cs_mono : ∀ k, (s.cs.getD idx []).getD k 0 ≤ (s'.cs.getD idx []).getD k 0
  cs_avail : ∀ k, k < (nodes[idx]'hidx).ins.length →
    (s'.cs.getD idx []).getD k 0 ≤ (s.h.getD ((nodes[idx]'hidx).ins.getD k 0) []).length
  outs : ∀ j, j < (nodes[idx]'hidx).nout → ∃ ext,
    ((nodes[idx]'hidx).F (consumedOf (nodes[idx]'hidx) s.h (s'.cs.getD idx []))).getD j [] =
      s'.h.getD (base nodes idx + j) [] ++ ext
  grow : ∀ t, ∃ ext, s'.h.getD t [] = s.h.getD t [] ++ ext
  others : ∀ t, (t < base nodes idx ∨ base nodes idx + (nodes[idx]'hidx).nout ≤ t) → s'.h.getD t [] = s.h.getD t []

/-- any number of steps by any blocks in any order -/
inductive Run (nodes : List Node) : GState → GState → Prop where
  | refl (s) : Run nodes s s
  | step (s s' s'' idx) : Step nodes idx s s' → Run nodes s' s'' → Run nodes s s''

/-- everything that exists has been consumed, and every block has emitted all it can -/
def AllConsumed (nodes : List Node) (s : GState) : Prop :=
  ∀ m, (hm : m < nodes.length) →
    (∀ k, k < nodes[m].ins.length → (s.cs.getD m []).getD k 0 = (s.h.getD (nodes[m].ins.getD k 0) []).length) ∧
    (∀ j, j < nodes[m].nout →
      s.h.getD (base nodes m + j) [] = (nodes[m].F (consumedOf nodes[m] s.h (s.cs.getD m []))).getD j [])

/-- An executable step: node `idx` consumes up to `cs'` and emits everything its function gives for that.
That it is a `Step` is `c05_step_exists`. -/
def stepFn (nodes : List Node) (idx : Nat) (cs' : List Nat) (s : GState) : GState :=
  match nodes[idx]? with
  | none => s
  | some n =>
    let outs := n.F (consumedOf n s.h cs')
    let b := base nodes idx
    { h := (List.range s.h.length).map fun t =>
        if b ≤ t ∧ t < b + n.nout then outs.getD (t - b) [] else s.h.getD t []
      cs := (List.range (max s.cs.length (idx + 1))).map fun m => if m = idx then cs' else s.cs.getD m [] }

/-- stream `t` is an output of node `p` -/
def Owns (nodes : List Node) (p : Nat) (hp : p < nodes.length) (t : Nat) : Prop :=
  base nodes p ≤ t ∧ t < base nodes p + nodes[p].nout

/-- node `m` has consumed all of its inputs and emitted all its function gives -/
def Done (nodes : List Node) (s : GState) (m : Nat) (hm : m < nodes.length) : Prop :=
  (∀ k, k < nodes[m].ins.length → (s.cs.getD m []).getD k 0 = (s.h.getD (nodes[m].ins.getD k 0) []).length) ∧
  (∀ j, j < nodes[m].nout →
    s.h.getD (base nodes m + j) [] = (nodes[m].F (consumedOf nodes[m] s.h (s.cs.getD m []))).getD j [])

/-- what a true `eof()` must mean -/
def EofSound (nodes : List Node) (R : List Nat) (s : GState) (m : Nat) (hm : m < nodes.length) : Prop :=
  (∀ i ∈ nodes[m].ins, ∃ p, ∃ hp : p < nodes.length, Owns nodes p hp i ∧ p ∈ R) ∧ Done nodes s m hm

inductive RStep (nodes : List Node) : List Nat × GState → List Nat × GState → Prop where
  | work (R s s' idx) : idx ∉ R → Step nodes idx s s' → RStep nodes (R, s) (R, s')
  | retire (R s m) (hm : m < nodes.length) : EofSound nodes R s m hm → RStep nodes (R, s) (m :: R, s)

inductive RRun (nodes : List Node) : List Nat × GState → List Nat × GState → Prop where
  | refl (x) : RRun nodes x x
  | step (x y z) : RStep nodes x y → RRun nodes y z → RRun nodes x z

/-! The two-block witness of why a retirement has to be sound: a source emitting `[1, 2, 3]` and a pass-through block
that, in `lagS2`, has consumed all three samples but delivered only two of them. -/

def lagNodes : List Node :=
  [ ⟨[], 1, fun _ => [[1, 2, 3]]⟩, ⟨[0], 1, fun xs => [xs.getD 0 []]⟩ ]

def lagS0 : GState := ⟨[[], []], []⟩
def lagS1 : GState := ⟨[[1, 2, 3], []], []⟩
def lagS2 : GState := ⟨[[1, 2, 3], [1, 2]], [[], [3]]⟩

end RR.Kpn
