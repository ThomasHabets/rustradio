import RR.Model.Conc
import RR.Spec.Fifo

/-!
The relation between a ring buffer and the FIFO it implements (`Sim`), tags as the FIFO specification sees them
(`specTags`), and the invariant of the two-thread protocol over that relation (`Conc.Inv`, with the queue the ring
should hold). The refinement statements of C02 and the invariant statement of C03 are written with them.
-/
namespace RR.Ring
open RR

/-- Stored tags carry their cell as `pos` (what `produce` writes); `tags_out` is needed because
`read_buf` walks the whole map and its filter lets some cells outside the window through. -/
structure Sim (s : State) (q : Fifo.Q) : Prop where
  cap_pos : 0 < s.cap
  rpos_lt : s.rpos < s.cap
  used_le : s.used ≤ s.cap
  wpos_eq : s.wpos = (s.rpos + s.used) % s.cap
  len_eq : q.length = s.used
  mem_eq : ∀ i, i < s.used → s.mem ((s.rpos + i) % s.cap) = (q.getD i (0, [])).1
  tags_eq : ∀ i, i < s.used → s.tags ((s.rpos + i) % s.cap) =
      (q.getD i (0, [])).2.map fun kv => { pos := (s.rpos + i) % s.cap, key := kv.1, val := kv.2 }
  tags_out : ∀ c, c < s.cap → s.used ≤ (c + s.cap - s.rpos) % s.cap → s.tags c = []

/-- Tags as the spec sees them. -/
def specTags (ts : List Tag) : List (Nat × Nat × Nat) := ts.map fun t => (t.pos, t.key, t.val)

end RR.Ring

namespace RR.Conc
open RR RR.Ring

/-- What the ring should hold: the committed history past the consumed prefix (no tags). -/
def queue (s : State) : Fifo.Q := (s.hist.drop s.consumed).map fun v => (v, [])

structure Inv (cap : Nat) (s : State) : Prop where
  cap_eq : s.ring.cap = cap
  sim : Sim s.ring (queue s)
  hist_len : s.hist.length = s.consumed + s.ring.used
  pw_ok : ∀ w, s.pw = some w → w.start = s.ring.wpos ∧ w.len ≤ Ring.free s.ring
  pr_ok : ∀ w, s.pr = some w → w.start = s.ring.rpos ∧ w.len ≤ s.ring.used

end RR.Conc
