import RR.Spec.Hdlc
import RR.Spec.Lfsr

/-!
The transmitter's side of the receive chains: the division steps of the CRC register (`crcIter`), a frame as it goes
on the line (`Hdlc.body`), a transmission of frames with idle flags (`txFrames`), and NRZI encoding (`nrziEnc`).
Statements of C13 and C20 are written with them.
-/
namespace RR.Hdlc
open RR.HdlcSpec

def crcIter : Nat → Nat → Nat
  | 0, s => s
  | k + 1, s => crcIter k (crcStep s)

/-- the stuffed body of a frame followed by a flag, starting right after a flag -/
def body (p : List Nat) : List Nat := stuff (lsbBits (p ++ le16 (crcBitwise p))) ++ flag

end RR.Hdlc

namespace RR.Chain
open RR RR.Blk RR.Lfsr RR.Hdlc RR.HdlcSpec

/-- NRZI as AX.25 transmits it: a `0` toggles the line level, a `1` keeps it. -/
def nrziEnc : Nat → List Nat → List Nat
  | _, [] => []
  | level, b :: rest =>
    let l := if b = 0 then 1 - level else level
    l :: nrziEnc l rest

/-- what goes on the air after the preamble: a flag, then the frames back to back, each followed by any
number of idle flags -/
def txFrames (ps : List (List Nat × Nat)) : List Nat :=
  flag ++ ps.flatMap fun q => body q.1 ++ (List.replicate q.2 flag).flatten

end RR.Chain
