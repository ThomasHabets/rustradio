import RR.Model.Sync

/-!
The generated `sync` / `sync_tag` loop driven over a full history by a schedule of chunk sizes (`driveG`), the read
window a call is shown (`winView`), the step count of one generated `work()` (`stepsOf`), and NRZI-S decoding as
documented (`nrziSpec`). Statements of C05, C08, C09, C10, C12, C19 and C20 are written with them.
-/
namespace RR.Blk

def shiftTags (c : Nat) (ts : List Tag) : List Tag := ts.map fun t => { t with pos := t.pos + c }

def shiftRes {σ} (c : Nat) : Option (σ × List (List Nat) × List Tag) → Option (σ × List (List Nat) × List Tag)
  | none => none
  | some (st, rows, ts) => some (st, rows, shiftTags c ts)

/-- Drive the loop through a schedule of chunk sizes on the full history,
threading the state and re-basing window positions each call; collect the rows
and (absolute) tags. This is what any sequence of `work()` calls computes,
whatever the window sizes and free space were. -/
def driveG (S : SyncSpec) (get : Nat → List Nat × List (List Tag)) :
    S.σ → Nat → List Nat → Option (S.σ × Nat × List (List Nat) × List Tag)
  | st, c, [] => some (st, c, [], [])
  | st, c, n :: rest =>
    -- the call sees a window starting at `c`; positions inside it are window-relative
    match shiftRes c (syncLoopG S (fun p => get (c + p)) st 0 n) with
    | none => none
    | some (st1, rows1, ts1) =>
      match driveG S get st1 (c + n) rest with
      | none => none
      | some (st2, c2, rows2, ts2) => some (st2, c2, rows1 ++ rows2, ts1 ++ ts2)

/-- The read window a block is shown when `c` samples of the history have been
consumed and `a` more are readable (tags window-relative, as `read_buf` gives them). -/
def winView (full : InView) (c a : Nat) : InView :=
  { samples := (full.samples.drop c).take a
    tags := (full.tags.filter fun t => decide (c ≤ t.pos ∧ t.pos < c + a)).map
      fun t => { t with pos := t.pos - c }
    alive := full.alive }

/-- NRZI-S decoding as the documentation states it: a toggle is 0, constant is 1,
i.e. `out[i] = 1 xor in[i] xor in[i-1]` with `in[-1] = 0`. -/
def nrziSpec (prev : Nat) : List Nat → List Nat
  | [] => []
  | a :: rest => (1 ^^^ a ^^^ prev) :: nrziSpec a rest

/-- The `n` of the generated `work()`: how many positions a call that does not wait processes. -/
def stepsOf (v : View) : Nat :=
  minList (v.outs.map (·.free)) (minList (v.ins.map (·.samples.length)) (2 ^ 64 - 1))

end RR.Blk
