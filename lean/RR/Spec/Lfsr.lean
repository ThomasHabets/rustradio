import RR.Model.Blocks

/-!
The G3RUH descrambler and scrambler as functions of the HISTORY of the line, in which the statements of C20 about
`Lfsr::next` (mask 0x21, length 16) are written: `out[n] = in[n] xor in[n-12] xor in[n-17]`, and
`s[n] = d[n] xor s[n-12] xor s[n-17]`.
-/
namespace RR.Lfsr
open RR.Blk

/-- history-based descrambler: `hist` = previous inputs, newest first -/
def descrL : List Nat → List Nat → List Nat
  | _, [] => []
  | hist, i :: rest => (i ^^^ hist.getD 11 0 ^^^ hist.getD 16 0) :: descrL (i :: hist) rest

/-- history-based scrambler: `hist` = previous OUTPUTS, newest first -/
def scrL : List Nat → List Nat → List Nat
  | _, [] => []
  | hist, d :: rest =>
    let o := d ^^^ hist.getD 11 0 ^^^ hist.getD 16 0
    o :: scrL (o :: hist) rest

/-- the real LFSR clocked over a bit list -/
def lfsrRun (reg : Nat) : List Nat → List Nat
  | [] => []
  | i :: rest =>
    match lfsrNext 0x21 16 reg i with
    | some (r', o) => o :: lfsrRun r' rest
    | none => []

/-- the register that holds the last 17 inputs: newest at bit 16 -/
def enc (hist : List Nat) : Nat :=
  hist.getD 0 0 * 65536 + hist.getD 1 0 * 32768 + hist.getD 2 0 * 16384 + hist.getD 3 0 * 8192 +
  hist.getD 4 0 * 4096 + hist.getD 5 0 * 2048 + hist.getD 6 0 * 1024 + hist.getD 7 0 * 512 +
  hist.getD 8 0 * 256 + hist.getD 9 0 * 128 + hist.getD 10 0 * 64 + hist.getD 11 0 * 32 +
  hist.getD 12 0 * 16 + hist.getD 13 0 * 8 + hist.getD 14 0 * 4 + hist.getD 15 0 * 2 + hist.getD 16 0

end RR.Lfsr
