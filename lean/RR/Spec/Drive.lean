import RR.Model.Hand

/-!
A one-input/one-output block driven over an input history by an adversarial schedule of (readable samples, free
output space): `drive1` without tags, `driveT` with the tags of the stream and the window arithmetic on them (`rng`,
`sh`, `up`, `mp`, `winTags`). The "for every schedule" statements of C08, C10, C11, C12 and C14 are written with them.
-/
namespace RR.Blk

/-- Drive a one-input/one-output block over the full input history `X`: at
each call an adversary picks how many of the unconsumed samples are readable
(`a`) and how much output space there is (`f`). -/
def drive1 (B : Block) (X : List Nat) : B.σ → Nat → List Nat → List (Nat × Nat) → B.σ × Nat × List Nat
  | st, c, out, [] => (st, c, out)
  | st, c, out, (a, f) :: rest =>
    let w := (X.drop c).take a
    let r := B.work st ⟨[⟨w, [], true⟩], [⟨f, true⟩]⟩
    drive1 B X r.1 (c + r.2.consumed.getD 0 0) (out ++ (r.2.produced.getD 0 ⟨[], []⟩).samples) rest

end RR.Blk

namespace RR.Dsp
open RR RR.Blk

/-- the tags of `T` on absolute positions `[a, b)` -/
def rng (T : List Tag) (a b : Nat) : List Tag := T.filter fun t => decide (a ≤ t.pos ∧ t.pos < b)

def sh (d : Nat) (t : Tag) : Tag := { t with pos := t.pos - d }

def up (d : Nat) (t : Tag) : Tag := { t with pos := d + t.pos }

def mp (g : Nat → Nat) (t : Tag) : Tag := { t with pos := g t.pos }

/-- window-relative tags of the read window `[c, c + wl)` -/
def winTags (T : List Tag) (c wl : Nat) : List Tag := (rng T c (c + wl)).map (sh c)

/-- Drive a one-input/one-output block over the input history `X` whose tags are `T` (absolute
positions): each call sees the next `a` samples with their tags rebased to the window, and `f` free
output samples. Collects the samples and the tags handed on (absolute output positions). -/
def driveT (B : Block) (X : List Nat) (T : List Tag) :
    B.σ → Nat → List Nat → List Tag → List (Nat × Nat) → B.σ × Nat × List Nat × List Tag
  | st, c, out, ot, [] => (st, c, out, ot)
  | st, c, out, ot, (a, f) :: rest =>
    let w := (X.drop c).take a
    let r := B.work st ⟨[⟨w, winTags T c w.length, true⟩], [⟨f, true⟩]⟩
    let p := r.2.produced.getD 0 ⟨[], []⟩
    driveT B X T r.1 (c + r.2.consumed.getD 0 0) (out ++ p.samples) (ot ++ p.tags.map (up out.length)) rest

end RR.Dsp
