import RR.Model.FileSrc

/-!
The sources driven over a schedule of free output space (`driveSrc`, `fsDrive`, `sgDrive`), what each is claimed to
have emitted in a given state and which states are reachable (`emitted`/`Good` and their `fs`, `sg` counterparts),
whole rounds of the data (`rept`) and `k` successive `Repeat::again` calls (`againN`). The statements of C16 are
written with them.
-/
namespace RR.Src
open RR RR.Blk

def rept (n : Nat) (l : List Nat) : List Nat := (List.replicate n l).flatten

/-- Drive the source: each call sees some free output space. Collects the
samples and whether some call answered `EOF`. -/
def driveSrc (data : List Nat) : VSt → List Nat → Bool → List Nat → VSt × List Nat × Bool
  | st, out, eof, [] => (st, out, eof)
  | st, out, eof, f :: rest =>
    let r := vsWork data st ⟨[], [⟨f, true⟩]⟩
    driveSrc data r.1 (out ++ (r.2.produced.getD 0 ⟨[], []⟩).samples) (eof || r.2.verdict == .eof) rest

/-- What has been emitted when the source is in state `st` (finite repeat `n`). -/
def emitted (data : List Nat) (n : Nat) (st : VSt) : List Nat :=
  match st.rep.r with
  | .finite 0 => rept n data
  | _ => rept st.rep.count data ++ data.take st.pos

/-- Reachable states of a finite source. -/
def Good (data : List Nat) (n : Nat) (st : VSt) : Prop :=
  ∃ m, st.rep.r = .finite m ∧ m + st.rep.count = n ∧ (m = 0 ∨ st.pos < data.length) ∧ st.pos ≤ data.length

/-- `k` successive `again()` calls. -/
def againN : Nat → Repeat → Option (Repeat × List Bool)
  | 0, x => some (x, [])
  | k + 1, x =>
    match x.again with
    | none => none
    | some (x', b) => (againN k x').map fun (y, bs) => (y, b :: bs)

/-- all whole samples of the file -/
def fileSamples (file : List Nat) (size : Nat) : List Nat := samplesOf size (file.length / size) file

/-- Drive the source: each call sees some free output space. -/
def fsDrive (file : List Nat) (size : Nat) : FsSt → List Nat → Bool → List Nat → FsSt × List Nat × Bool
  | st, out, eof, [] => (st, out, eof)
  | st, out, eof, f :: rest =>
    let r := fsWork file size st ⟨[], [⟨f, true⟩]⟩
    fsDrive file size r.1 (out ++ (r.2.produced.getD 0 ⟨[], []⟩).samples) (eof || r.2.verdict == .eof) rest

/-- what has been emitted when the source is in state `st` (finite repeat `n`) -/
def fsEmitted (file : List Nat) (size n : Nat) (st : FsSt) : List Nat :=
  match st.rep.r with
  | .finite 0 => rept n (fileSamples file size)
  | _ => rept st.rep.count (fileSamples file size) ++ samplesOf size (st.pos / size) file

/-- reachable states -/
def FsGood (file : List Nat) (size n : Nat) (st : FsSt) : Prop :=
  ∃ m, st.rep.r = .finite m ∧ m + st.rep.count = n ∧ st.pos ≤ file.length ∧
    st.rb ≤ file.length - st.pos ∧
    st.buf = (file.drop (st.pos / size * size)).take (st.pos % size)

def sgDrive (data : List Nat) (size : Nat) : SgSt → List Nat → Bool → List Nat → SgSt × List Nat × Bool
  | st, out, eof, [] => (st, out, eof)
  | st, out, eof, f :: rest =>
    let r := sgWork data size st ⟨[], [⟨f, true⟩]⟩
    sgDrive data size r.1 (out ++ (r.2.produced.getD 0 ⟨[], []⟩).samples) (eof || r.2.verdict == .eof) rest

def sgEmitted (data : List Nat) (size n : Nat) (st : SgSt) : List Nat :=
  match st.rep.r with
  | .finite 0 => rept n (fileSamples data size)
  | _ => rept st.rep.count (fileSamples data size) ++ samplesOf size ((data.length - st.left) / size) data

def SgGood (data : List Nat) (size n : Nat) (st : SgSt) : Prop :=
  ∃ m, st.rep.r = .finite m ∧ m + st.rep.count = n ∧ st.left ≤ data.length ∧
    st.buf = (data.drop ((data.length - st.left) / size * size)).take ((data.length - st.left) % size)

end RR.Src
