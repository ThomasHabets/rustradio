import RR.Model.Dsp
import Mathlib.Algebra.BigOperators.Intervals

/-!
Exact-arithmetic references for the kernels of `RR.Dsp`, over a commutative ring: the ring as an `Ops` (`ringOps`),
linear convolution (`convAt`) and the IIR recurrence over the whole output history (`iirRef`). Statements of C11 say
what the float code computes up to rounding in these terms.
-/
namespace RR.Dsp
open Finset

variable {R : Type} [CommRing R]

def ringOps (R : Type) [CommRing R] : Ops R := ⟨0, (· + ·), (· * ·)⟩

/-- Linear convolution with zero pre-history: `y[n] = Σ_k h[k] · x[n-k]`. -/
def convAt (taps X : List R) (n : ℕ) : R :=
  ∑ k ∈ range taps.length, if k ≤ n then taps.getD k 0 * X.getD (n - k) 0 else 0

/-- The defining recurrence over the whole output history `hist` (oldest first):
`y = t0·x + Σ_{i=1}^{min(n, L-1)} t_i · y[n-i]`. -/
def iirRef (taps : List R) : List R → List R → List R
  | _, [] => []
  | hist, x :: xs =>
    let y := taps.getD 0 0 * x +
      ∑ i ∈ range (min hist.length (taps.length - 1)), taps.getD (i + 1) 0 * hist.getD (hist.length - 1 - i) 0
    y :: iirRef taps (hist ++ [y]) xs

end RR.Dsp
