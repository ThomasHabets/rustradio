import Mathlib.Algebra.BigOperators.Intervals
import Mathlib.Analysis.SpecialFunctions.Trigonometric.Basic

/-!
Filter design in exact arithmetic: the expressions of `low_pass`, `hilbert` (src/fir.rs) and of the windows
(src/window.rs) written over a field / ℝ. The design statements of C11 (symmetry, unit DC gain, the Hilbert taps) are
about these; the float code computes them with rounding.
-/
namespace RR.Dsp.Design
open Finset

section LowPass
variable {K : Type} [Field K]

/-- `taps[nm] = core(nm - m) * window[nm]` (before normalisation). -/
def raw (core : ℤ → K) (win : ℕ → K) (m : ℕ) (i : ℕ) : K := core ((i : ℤ) - m) * win i

/-- `fmax = taps[m] + 2 * Σ_{n=1..m} taps[n+m]` -/
def fmax (core : ℤ → K) (win : ℕ → K) (m : ℕ) : K :=
  raw core win m m + 2 * ∑ n ∈ range m, raw core win m (n + 1 + m)

def lowPass (core : ℤ → K) (win : ℕ → K) (m : ℕ) (i : ℕ) : K := raw core win m i * (1 / fmax core win m)

end LowPass

/-- `if n == 0 { fwt0 / pi } else { sin(n * fwt0) / (n * pi) }` -/
noncomputable def sincCore (fwt0 : ℝ) (n : ℤ) : ℝ :=
  if n = 0 then fwt0 / Real.pi else Real.sin ((n : ℝ) * fwt0) / ((n : ℝ) * Real.pi)

/-- `hamming(ntaps, a0)`: `a0 - (1-a0) * cos(2π n / (ntaps-1))`, here `ntaps - 1 = 2m`. -/
noncomputable def hammingWin (a0 : ℝ) (m : ℕ) (n : ℕ) : ℝ :=
  a0 - (1 - a0) * Real.cos (2 * Real.pi * (n : ℝ) / ((2 * m : ℕ) : ℝ))

/-- `blackman(ntaps)` after the repair: divides by `ntaps - 1 = 2m`. -/
noncomputable def blackmanWin (a0 a1 a2 : ℝ) (m : ℕ) (n : ℕ) : ℝ :=
  a0 - a1 * Real.cos (2 * Real.pi * (n : ℝ) / ((2 * m : ℕ) : ℝ)) +
    a2 * Real.cos (4 * Real.pi * (n : ℝ) / ((2 * m : ℕ) : ℝ))

/-- `blackman_harris(ntaps)` after the repair. -/
noncomputable def blackmanHarrisWin (a0 a1 a2 a3 : ℝ) (m : ℕ) (n : ℕ) : ℝ :=
  a0 - a1 * Real.cos (2 * Real.pi * (n : ℝ) / ((2 * m : ℕ) : ℝ)) +
    a2 * Real.cos (4 * Real.pi * (n : ℝ) / ((2 * m : ℕ) : ℝ)) -
    a3 * Real.cos (6 * Real.pi * (n : ℝ) / ((2 * m : ℕ) : ℝ))

section Hilbert
variable {K : Type} [Field K]

/-- the loop body of `hilbert()` (before the common gain factor) -/
def hilbertRaw (win : ℕ → K) (mid : ℕ) (j : ℕ) : K :=
  if j = mid then 0
  else if mid < j then (if (j - mid) % 2 = 1 then 1 / ((j - mid : ℕ) : K) * win j else 0)
  else (if (mid - j) % 2 = 1 then -(1 / ((mid - j : ℕ) : K)) * win j else 0)

end Hilbert

end RR.Dsp.Design
