import RR.Model.Gated
import Mathlib.Data.Rat.Floor

/-!
The ideal NRZ waveform of a symbol sequence at a rational number of samples per symbol (`symIdx`, `wave`,
`idealWave`), the sign of an emitted row (`rowSign`), and `ZeroCrossing`'s arithmetic instantiated with exact
rationals (`ratZOps`). The clock-recovery statements of C20 are written with them.
-/
namespace RR.Blk

def ratZOps (pos : Nat → Bool) : ZOps ℚ :=
  { add := (· + ·), sub := (· - ·), half := (· / 2), mul10 := (10 * ·)
    ofNat := fun n => (n : ℚ), toNat := fun x => ⌊x⌋₊, pos := pos, enc := fun _ => 0 }

/-- the symbol a sample belongs to: symbol `s` occupies the sample instants `[s·sps, (s+1)·sps)` -/
def symIdx (sps : ℚ) (i : ℕ) : ℕ := ⌊(i : ℚ) / sps⌋₊

/-- ideal NRZ waveform: sample `i` is `hi` or `lo` according to its symbol -/
def wave (sps : ℚ) (b : List Bool) (hi lo : Nat) (i : ℕ) : Nat := if b.getD (symIdx sps i) false then hi else lo

/-- sign of the symbol sample of a row -/
def rowSign (pos : Nat → Bool) (r : List Nat) : Bool := pos (r.getD 0 0)

/-- the ideal waveform of `b`: all samples of `|b|` symbols -/
def idealWave (sps : ℚ) (b : List Bool) (hi lo : Nat) : List Nat :=
  (List.range ⌈(b.length : ℚ) * sps⌉₊).map (wave sps b hi lo)

end RR.Blk
