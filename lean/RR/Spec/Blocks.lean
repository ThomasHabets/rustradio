import RR.Model.Wrap
import RR.Model.Gated
import RR.Model.Conv
import RR.Model.SinkSrc

/-!
What single blocks are claimed to compute, as functions of the whole input history (`rtlSpec`, `resRef`, `cmaBlocks`,
`fftStreamSpec`, `gatedRun`, `v2sTags`, `DelaySt.net`), the drive functions of the blocks that `drive1` does not fit,
and the contract and invariant of the wrapper block (`InnerOk`, `WInv`). Statements of C08–C11, C20 and `wrap_drive`
use them.
-/
namespace RR.Blk

def rtlSpec (X : List Nat) : List Nat :=
  (pairs X).map fun (a, b) => bits (rtlConv a) + bits (rtlConv b) * 2 ^ 32

/-- the block with explicit (reduced) ratio -/
def resBlockRaw (I D : Int) : Block :=
  { σ := Int, init := 0, work := resWork I D, eof := fun _ v => macroEof v }

/-- all copies of one sample: emit while the counter is positive -/
def emitAll (D : Int) (s : Nat) : Nat → Int → Int × List Nat
  | 0, c => (c, [])
  | fuel + 1, c => if c > 0 then ((emitAll D s fuel (c - D)).1, s :: (emitAll D s fuel (c - D)).2) else (c, [])

/-- the reference resampler: unbounded output space -/
def resRef (I D : Int) : Int → List Nat → List Nat
  | _, [] => []
  | c, s :: rest =>
    (emitAll D s ((c + I).toNat + 1) (c + I)).2 ++ resRef I D (emitAll D s ((c + I).toNat + 1) (c + I)).1 rest

/-- pending net shift: zeros still owed minus input samples still to be dropped -/
def DelaySt.net (st : DelaySt) : Int := (st.currentDelay : Int) - (st.skip : Int)

/-- The stream function: the state machine run over a whole list, with unbounded output. -/
def gatedRun (G : Gated) : List Nat → G.σ → List (List Nat) → Option (G.σ × List (List Nat))
  | [], st, rows => some (st, rows)
  | s :: rest, st, rows =>
    match G.step st s with
    | none => none
    | some (st', none) => gatedRun G rest st' rows
    | some (st', some r) => gatedRun G rest st' (rows ++ [r])

/-- Drive a gated block over the input history `X`: each call sees the next `a` unconsumed samples and
`f0`/`f1` free samples on its outputs. Collects the rows handed on; `none` = a call panicked. -/
def driveGated (G : Gated) (X : List Nat) : G.σ → Nat → List (List Nat) → List (Nat × Nat × Nat) →
    Option (G.σ × Nat × List (List Nat))
  | st, c, rows, [] => some (st, c, rows)
  | st, c, rows, (a, f0, f1) :: rest =>
    let w := (X.drop c).take a
    let r := gatedWork G st ⟨[⟨w, [], true⟩], [⟨f0, true⟩, ⟨f1, true⟩]⟩
    if r.2.verdict == .panic then none
    else
      let p0 := (r.2.produced.getD 0 ⟨[], []⟩).samples
      let p1 := (r.2.produced.getD 1 ⟨[], []⟩).samples
      -- the rows as the two downstream readers see them (column 1 only exists with a clock output)
      let new := (List.range p0.length).map fun i => [p0.getD i 0, p1.getD i 0]
      driveGated G X r.1 (c + r.2.consumed.getD 0 0) (rows ++ new) rest

/-- rows restricted to the columns the block has -/
def cols (nout : Nat) (rows : List (List Nat)) : List (List Nat) :=
  rows.map fun r => [r.getD 0 0, if nout == 2 then r.getD 1 0 else 0]

/-- the tags VecToStream is documented to add, for packets laid out from output offset `off` -/
def v2sTags : Nat → List (List Nat) → List Tag
  | _, [] => []
  | off, p :: rest =>
    (if p.length = 0 then [] else [⟨off, v2sStartKey, p.length⟩, ⟨off + p.length - 1, v2sEndKey, p.length⟩]) ++
      v2sTags (off + p.length) rest

/-- Drive VecToStream over the packet list `pk`: each call sees the next `a` unpopped packets and `f` free
output samples. Collects output samples and tags (absolute output positions). -/
def driveV2S (pk : List (List Nat)) : Nat → List Nat → List Tag → List (Nat × Nat) → Nat × List Nat × List Tag
  | c, out, ot, [] => (c, out, ot)
  | c, out, ot, (a, f) :: rest =>
    let w := ((pk.drop c).take a).map encodePkt
    let r := v2sWork () ⟨[⟨w, [], true⟩], [⟨f, true⟩]⟩
    let p := r.2.produced.getD 0 ⟨[], []⟩
    driveV2S pk (c + r.2.consumed.getD 0 0) (out ++ p.samples)
      (ot ++ p.tags.map fun t => { t with pos := out.length + t.pos }) rest

/-- the calls of a schedule: one `work()` per free-space value (the harness drains as it likes in between);
returns the final state and everything emitted -/
def genDrive (G : GenSrc) : List Nat → G.σ → G.σ × List Nat
  | [], s => (s, [])
  | f :: fs, s =>
    let r := genWork G s ⟨[], [⟨f, true⟩]⟩
    let rest := genDrive G fs r.1
    (rest.1, (r.2.produced.getD 0 ⟨[], []⟩).samples ++ rest.2)

/-- one `work()` per read window; returns the number stored and everything stored -/
def sinkDrive (max : Nat) : List (List Nat) → Nat → Nat × List Nat
  | [], st => (st, [])
  | w :: ws, st =>
    let r := vsinkWork max st ⟨[⟨w, [], true⟩], []⟩
    let rest := sinkDrive max ws r.1
    (rest.1, (r.2.produced.getD 0 ⟨[], []⟩).samples ++ rest.2)

section Wrap
variable (B : Block) (cap : Nat) (toIn toOut : Nat → Nat) (Xn : List Nat)

/-- the wrapped block's contract on the converted input history `Xn.map toIn`, tag-free -/
def InnerOk (Inv : B.σ → Nat → List Nat → Prop) : Prop :=
  ∀ (st : B.σ) (c : Nat) (out : List Nat) (a f : Nat), Inv st c out →
    let r := B.work st ⟨[⟨((Xn.map toIn).drop c).take a, [], true⟩], [⟨f, true⟩]⟩
    Inv r.1 (c + r.2.consumed.getD 0 0) (out ++ (r.2.produced.getD 0 ⟨[], []⟩).samples) ∧
    r.2.consumed.getD 0 0 ≤ (((Xn.map toIn).drop c).take a).length ∧
    (r.2.produced.getD 0 ⟨[], []⟩).tags = []

/-- the wrapper after consuming `C` outer samples and delivering `D` -/
def WInv (Inv : B.σ → Nat → List Nat → Prop) (s : WrapSt B.σ) (C : Nat) (D : List Nat) : Prop :=
  ∃ c out, Inv s.inner c out ∧ c ≤ C ∧ C ≤ Xn.length ∧
    s.qin.samples = ((Xn.map toIn).drop c).take (C - c) ∧ s.qin.tags = [] ∧ s.qout.tags = [] ∧
    D.length ≤ out.length ∧ D = (out.take D.length).map toOut ∧ s.qout.samples = out.drop D.length

end Wrap

end RR.Blk

namespace RR.Dsp
open RR.Blk

/-- state and output after `k` whole blocks of `n` samples of the input history `X` -/
def cmaBlocks (n : Nat) (m s : Float32) (X : List Nat) : Nat → List C32 × List Nat
  | 0 => ((cmaBlock n m s).init, [])
  | k + 1 =>
    let p := cmaBlocks n m s X k
    let win := ((X.drop (k * n)).take n).map c32Codec.dec
    let r := cmaLoop m s (List.replicate n (0.0, 0.0)) win p.1 win []
    (r.1, p.2 ++ r.2.map c32Codec.enc)

end RR.Dsp

namespace RR.Dsp
open RR RR.Blk

/-- the engine's output on each of the first `q` whole frames of the input, in order -/
def fftStreamSpec (engine : List Nat → List Nat) (size : Nat) (X : List Nat) (q : Nat) : List Nat :=
  (framesOf size q (X.take (q * size))).flatMap engine

end RR.Dsp
